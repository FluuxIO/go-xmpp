-- Root of the library: imports every module.
import XmppVerif.Util
import XmppVerif.Drv.Core
import XmppVerif.Props.C17
import XmppVerif.Drv.C17
import XmppVerif.Props.C19
import XmppVerif.Drv.C19
import XmppVerif.Props.C20
import XmppVerif.Drv.C20
import XmppVerif.Props.C15
import XmppVerif.Drv.C15
import XmppVerif.Tie.C15
import XmppVerif.Tie.C19
import XmppVerif.Tie.C20
import XmppVerif.Props.C06
import XmppVerif.Drv.C06
import XmppVerif.Props.C10
import XmppVerif.Drv.C10
import XmppVerif.Props.C05
import XmppVerif.Props.C09
import XmppVerif.Props.C12
import XmppVerif.Drv.Recv
import XmppVerif.Tie.Recv
import XmppVerif.Props.C03
import XmppVerif.Props.C04
import XmppVerif.Props.C11
import XmppVerif.Drv.Neg
import XmppVerif.Tie.Neg
import XmppVerif.Props.C14
import XmppVerif.Drv.C14
import XmppVerif.Tie.C14
import XmppVerif.Props.C16
import XmppVerif.Drv.C16
import XmppVerif.Tie.C16
import XmppVerif.Props.C18
import XmppVerif.Drv.C18
import XmppVerif.Tie.C18
import XmppVerif.Props.C13
import XmppVerif.Drv.C13
import XmppVerif.Tie.C13
import XmppVerif.Props.C01Esc
import XmppVerif.Drv.C01
import XmppVerif.Props.C01Node
import XmppVerif.Props.C01Stanza
import XmppVerif.Tie.C01
import XmppVerif.Props.C01Schema
import XmppVerif.Props.C01SchemaTypes
import XmppVerif.Props.C01Compose
import XmppVerif.Props.C01Dispatch
import XmppVerif.Props.C01Command
import XmppVerif.Drv.C01Schema
import XmppVerif.Tie.C01Schema
import XmppVerif.Props.C07
import XmppVerif.Drv.C07
import XmppVerif.Tie.C07
import XmppVerif.Props.C02
import XmppVerif.Drv.C02
import XmppVerif.Tie.C02
import XmppVerif.Props.C08
import XmppVerif.Drv.C08
import XmppVerif.Tie.C08
import XmppVerif.Tie.C06
import XmppVerif.Tie.C10
import XmppVerif.Tie.C17
import XmppVerif.Props.Transport
import XmppVerif.Tie.Transport
import XmppVerif.Props.C02Bytes
import XmppVerif.Props.C12Bytes
import XmppVerif.Tie.C02Bytes
import XmppVerif.Drv.C02Bytes
import XmppVerif.Props.C14Neg
import XmppVerif.GoRT
import XmppVerif.Tie.TrQueue
import XmppVerif.Tie.TrJid
import XmppVerif.Tie.TrAddr
import XmppVerif.Tie.TrBackoff
import XmppVerif.Tie.TrAuth
import XmppVerif.Tie.TrRouter
import XmppVerif.Fx
import XmppVerif.Tie.Fx
import XmppVerif.Tie.FxConn
import XmppVerif.Tie.FxRecv
import XmppVerif.Tie.FxSend
import XmppVerif.Tie.FxLock
