/-
Run-time library of the Go -> Lean translator (go/extract/tr.go). The regenerated modules `Gen/Tr*.lean` are
terms over these definitions; `Tie/Tr*.lean` proves them equal to the hand-written models.

Representation (part of the trusted base, see DESIGN.md 12.9):
  string  = `List Char` (code points; strings that are not valid UTF-8 are outside the translation),
  int     = `Int` (no overflow), slices = `List`, error = `Bool` ("is an error"),
  indices returned by strings.Index / LastIndex / IndexFunc are CODE POINT indices, not byte offsets: the
  translated functions only compare them with each other or with 0 / -1, which is insensitive to the difference;
  indexing outside a list yields `default` where Go panics (panics are not modelled).
-/
namespace XmppVerif.GoRT

/-- result of one iteration of a loop body: `return v`, the new values of the assigned variables, or `break` -/
inductive Step (ρ σ : Type) where
  | ret (v : ρ)
  | next (s : σ)
  | brk (s : σ)

/-- result of a whole loop: `return v` from inside, or the final values of the assigned variables -/
inductive Done (ρ σ : Type) where
  | ret (v : ρ)
  | fin (s : σ)

/-- `error`: nil, an ordinary error, or a `ConnError` with its `Permanent` flag (messages are not modelled) -/
inductive Err where
  | none
  | plain
  | conn (permanent : Bool)
  deriving DecidableEq, Repr, Inhabited

def Err.isErr : Err → Bool
  | .none => false
  | _ => true

@[simp] theorem Err.isErr_none : Err.none.isErr = false := rfl
@[simp] theorem Err.isErr_plain : Err.plain.isErr = true := rfl
@[simp] theorem Err.isErr_conn (p : Bool) : (Err.conn p).isErr = true := rfl

def len {α : Type} (xs : List α) : Int := (xs.length : Int)

def idx {α : Type} [Inhabited α] (xs : List α) (i : Int) : α :=
  if i < 0 then default else xs.getD i.toNat default

theorem len_map {α β : Type} (f : α → β) (xs : List α) : len (xs.map f) = len xs := by simp [len]

theorem len_eq_zero {α : Type} (xs : List α) : len xs = 0 ↔ xs = [] := by
  simp [len]

theorem idx_nat {α : Type} [Inhabited α] (xs : List α) (i : Nat) (hi : i < xs.length) : idx xs (i : Int) = xs[i] := by
  have h0 : ¬ ((i : Int) < 0) := by omega
  simp [idx, h0, List.getD_eq_getElem?_getD, List.getElem?_eq_getElem hi]

theorem idx_zero {α : Type} [Inhabited α] (a : α) (l : List α) : idx (a :: l) 0 = a := by simp [idx]
theorem idx_one {α : Type} [Inhabited α] (a b : α) (l : List α) : idx (a :: b :: l) 1 = b := by simp [idx]

theorem idx_last {α : Type} [Inhabited α] (xs : List α) : idx xs (len xs - 1) = xs.getLast?.getD default := by
  cases h : xs.getLast? with
  | none => simp [List.getLast?_eq_none_iff.mp h, idx, len]
  | some e =>
    have hne : xs ≠ [] := by intro h0; simp [h0] at h
    have hlen := List.length_pos_iff.mpr hne
    rw [len, show (xs.length : Int) - 1 = ((xs.length - 1 : Nat) : Int) by omega, idx_nat _ _ (by omega)]
    rw [List.getLast?_eq_getElem?, List.getElem?_eq_getElem (by omega)] at h
    simpa using h

def sliceFrom {α : Type} (xs : List α) (lo : Int) : List α := xs.drop lo.toNat

def slice {α : Type} (xs : List α) (lo hi : Int) : List α := (xs.take hi.toNat).drop lo.toNat

def forEachAux {α ρ σ : Type} (f : Int → α → σ → Step ρ σ) : Int → List α → σ → Done ρ σ
  | _, [], s => .fin s
  | i, x :: xs, s =>
    match f i x s with
    | .ret v => .ret v
    | .brk s' => .fin s'
    | .next s' => forEachAux f (i + 1) xs s'

/-- `for i, x := range xs { body }` -/
def forEach {α ρ σ : Type} (xs : List α) (f : Int → α → σ → Step ρ σ) (s : σ) : Done ρ σ :=
  forEachAux f 0 xs s

/-- what a loop body does when it stops the loop with this result: `return v`, or `break` with the assigned variables -/
def Done.toStep {ρ σ : Type} : Done ρ σ → Step ρ σ
  | .ret v => .ret v
  | .fin s => .brk s

theorem forEachAux_map {α β ρ σ : Type} (g : β → α) (f : Int → α → σ → Step ρ σ) (xs : List β) (i : Int) (s : σ) :
    forEachAux f i (xs.map g) s = forEachAux (fun i x => f i (g x)) i xs s := by
  induction xs generalizing i s with
  | nil => rfl
  | cons x xs ih => simp only [List.map_cons, forEachAux, ih]

theorem forEachAux_find {α ρ σ : Type} (q : α → Bool) (out : α → Done ρ σ) (f : Int → α → σ → Step ρ σ) (s : σ)
    (hf : ∀ i x, f i x s = if q x then (out x).toStep else .next s) (xs : List α) (i : Int) :
    forEachAux f i xs s = match xs.find? q with
      | some x => out x
      | none => .fin s := by
  induction xs generalizing i with
  | nil => rfl
  | cons x xs ih =>
    rw [forEachAux, hf, List.find?_cons]
    cases hq : q x
    · exact ih (i + 1)
    · cases hx : out x <;> simp [Done.toStep, hx]

theorem forEachAux_any {α ρ σ : Type} (q : α → Bool) (out : Done ρ σ) (f : Int → α → σ → Step ρ σ) (s : σ)
    (hf : ∀ i x, f i x s = if q x then out.toStep else .next s) (xs : List α) (i : Int) :
    forEachAux f i xs s = if xs.any q then out else .fin s := by
  rw [forEachAux_find q (fun _ => out) f s hf, ← List.isSome_find?]
  cases xs.find? q <;> rfl

def forRangeAux {ρ σ : Type} (f : Int → σ → Step ρ σ) : Nat → Int → σ → Done ρ σ
  | 0, _, s => .fin s
  | k + 1, i, s =>
    match f i s with
    | .ret v => .ret v
    | .brk s' => .fin s'
    | .next s' => forRangeAux f k (i + 1) s'

/-- `for i := lo; i < hi; i++ { body }` where the body assigns neither `i` nor anything `hi` mentions -/
def forRange {ρ σ : Type} (lo hi : Int) (f : Int → σ → Step ρ σ) (s : σ) : Done ρ σ :=
  forRangeAux f (hi - lo).toNat lo s

theorem forRangeAux_collect {α ρ : Type} [Inhabited α] (xs : List α) : ∀ (k i : Nat) (r : List α), i + k ≤ xs.length →
    forRangeAux (ρ := ρ) (fun j r => Step.next (r ++ [idx xs j])) k (i : Int) r = Done.fin (r ++ (xs.drop i).take k) := by
  intro k
  induction k with
  | zero => intro i r _; simp [forRangeAux]
  | succ k ih =>
    intro i r h
    have hi : i < xs.length := by omega
    simp only [forRangeAux, idx_nat xs i hi]
    rw [show ((i : Int) + 1) = ((i + 1 : Nat) : Int) by omega, ih (i + 1) _ (by omega),
      List.drop_eq_getElem_cons hi, List.take_succ_cons]
    simp

/-- `for i := 0; i < n; i++ { r = append(r, xs[i]) }` -/
theorem forRange_collect {α ρ : Type} [Inhabited α] (xs : List α) (n : Int) (h : n ≤ len xs) :
    forRange (ρ := ρ) 0 n (fun j r => Step.next (r ++ [idx xs j])) [] = Done.fin (xs.take n.toNat) := by
  have := forRangeAux_collect (ρ := ρ) xs n.toNat 0 [] (by simp only [len] at h; omega)
  simpa [forRange] using this

/-! ### float64, ideal: the translated code only forms products, powers and minima of integers; they are computed
exactly (`F64 = Int`). This is the Go result whenever every intermediate value is below 2^53; rounding above that
is not modelled (DESIGN.md 10 and 12.9). `math.Pow` with a negative exponent is outside the model (0). -/

abbrev F64 := Int
def F64.ofInt (x : Int) : F64 := x
def F64.toInt (x : F64) : Int := x
def math_Min (a b : F64) : F64 := if a ≤ b then a else b
def math_Max (a b : F64) : F64 := if a ≤ b then b else a
def math_Pow (a b : F64) : F64 := if b < 0 then 0 else a ^ b.toNat
def math_Trunc (a : F64) : F64 := a


theorem isPrefix_single (c x : Char) (xs : List Char) : [c].isPrefixOf (x :: xs) = (x == c) := by
  simp [List.isPrefixOf, Bool.beq_comm]

def strings_HasPrefix (s p : List Char) : Bool := p.isPrefixOf s
def strings_HasSuffix (s p : List Char) : Bool := p.isSuffixOf s

def indexGo (sub : List Char) : List Char → Int → Int
  | [], i => if sub.isEmpty then i else -1
  | c :: cs, i => if sub.isPrefixOf (c :: cs) then i else indexGo sub cs (i + 1)

/-- `strings.Index` -/
def strings_Index (s sub : List Char) : Int := indexGo sub s 0

def strings_Contains (s sub : List Char) : Bool := decide (strings_Index s sub ≥ 0)

/-- `strings.LastIndex` -/
def strings_LastIndex (s sub : List Char) : Int :=
  match s with
  | [] => if sub.isEmpty then 0 else -1
  | c :: cs =>
    let r := strings_LastIndex cs sub
    if r ≥ 0 then r + 1 else if sub.isPrefixOf (c :: cs) then 0 else -1

def countGo (sub : List Char) : List Char → Nat → Int
  | [], _ => 0
  | c :: cs, 0 => if sub.isPrefixOf (c :: cs) then 1 + countGo sub cs (sub.length - 1) else countGo sub cs 0
  | _ :: cs, k + 1 => countGo sub cs k

/-- `strings.Count`: non-overlapping occurrences; code points + 1 for the empty needle -/
def strings_Count (s sub : List Char) : Int :=
  if sub.isEmpty then (s.length : Int) + 1 else countGo sub s 0

/-- split at the first occurrence of a non-empty separator -/
def cut (sep : List Char) : List Char → List Char × Option (List Char)
  | [] => ([], none)
  | c :: cs =>
    if sep.isPrefixOf (c :: cs) then ([], some ((c :: cs).drop sep.length))
    else
      let r := cut sep cs
      (c :: r.1, r.2)

def splitGo (sep : List Char) : Nat → List Char → List (List Char)
  | 0, s => [s]
  | k + 1, s =>
    match cut sep s with
    | (a, none) => [a]
    | (a, some b) => a :: splitGo sep k b

def explode : Nat → List Char → List (List Char)
  | _, [] => []
  | 0, s => [s]
  | k + 1, c :: cs => [c] :: explode k cs

/-- `strings.SplitN` -/
def strings_SplitN (s sep : List Char) (n : Int) : List (List Char) :=
  if n == 0 then []
  else
    let cuts : Nat := if n < 0 then s.length else (n - 1).toNat
    if sep.isEmpty then explode cuts s else splitGo sep cuts s

def indexFuncGo (f : Char → Bool) : List Char → Int → Int
  | [], _ => -1
  | c :: cs, i => if f c then i else indexFuncGo f cs (i + 1)

/-- `strings.IndexFunc` -/
def strings_IndexFunc (s : List Char) (f : Char → Bool) : Int := indexFuncGo f s 0

theorem indexFuncGo_neg (f : Char → Bool) : ∀ (s : List Char) (i : Int), 0 ≤ i →
    (indexFuncGo f s i < 0 ↔ s.all (fun c => !f c) = true)
  | [], i, hi => by simp [indexFuncGo]
  | c :: cs, i, hi => by
    have ih := indexFuncGo_neg f cs (i + 1) (by omega)
    cases h : f c
    · simpa [indexFuncGo, h] using ih
    · simpa [indexFuncGo, h] using hi

theorem indexFunc_neg (f : Char → Bool) (s : List Char) :
    decide (strings_IndexFunc s f < 0) = s.all (fun c => !f c) := by
  rw [strings_IndexFunc, Bool.eq_iff_iff, decide_eq_true_iff]
  exact indexFuncGo_neg f s 0 (by omega)


def strconv_Itoa (n : Int) : List Char := (toString n).toList

/-- `unicode.IsSpace` (Go 1.23: Latin-1 fast path plus the White_Space table); compared with the real function on
every code point by C15's check. -/
def unicode_IsSpace (c : Char) : Bool :=
  let n := c.toNat
  (9 ≤ n && n ≤ 13) || n == 0x20 || n == 0x85 || n == 0xA0 || n == 0x1680 ||
  (0x2000 ≤ n && n ≤ 0x200A) || n == 0x2028 || n == 0x2029 || n == 0x202F || n == 0x205F || n == 0x3000

end XmppVerif.GoRT
