import XmppVerif.Proofs.C02BytesRender
/-
The round trip at tree level: the decoder, in any state, reading a rendered source tree (forest) followed by anything,
delivers exactly the tokens of the tree and is then in the same state in front of the rest.
-/
namespace XmppVerif.Proofs.C02Bytes
open XmppVerif.Model.C02Bytes XmppVerif.Spec.C02Bytes

theorem tok_attrs (q : QName) (st : Stack) (y : List Char) : ∀ (as : List SAttr) (as0 : List RawAttr),
    as.all SAttr.ok = true →
    tokenizeFrom (.tag q as0) st (renderAttrs as ++ y) = tokenizeFrom (.tag q (as0 ++ as.map SAttr.raw)) st y := by
  intro as
  induction as with
  | nil => intro as0 _; simp [renderAttrs]
  | cons a as ih =>
    intro as0 h
    simp only [List.all_cons, Bool.and_eq_true] at h
    simp only [renderAttrs, List.append_assoc]
    rw [tokenizeFrom_step (lexStep_attr q as0 a _ h.1), applyEv_none]
    simp only [pre_nil]
    rw [ih (as0 ++ [a.raw]) h.2]
    simp

theorem noName_attrs (as : List SAttr) (tail : List Char) (c : Char) (z : List Char)
    (has : as.all SAttr.ok = true) (ht : wsOk tail = true) (hc : isNameChar c = false) :
    NoName (renderAttrs as ++ (tail ++ c :: z)) := by
  cases as with
  | nil => simpa [renderAttrs] using noName_ws_cons tail c z ht hc
  | cons a as =>
    simp only [List.all_cons, Bool.and_eq_true] at has
    obtain ⟨hne, hpre, _⟩ := (sattrOk_iff a).mp has.1
    simpa [renderAttrs, SAttr.render] using noName_nonempty_ws a.pre _ hne hpre

theorem startsLt_of_nonText (t : STree) (x : List Char) (h : t.isText = false) : StartsLt (render t ++ x) := by
  unfold StartsLt
  cases t with
  | text ps => simp [STree.isText] at h
  | _ => simp [render]

/-- the start tag up to, not including, the `>` or `/>` that ends it (`c`) -/
theorem tok_open (q : QName) (as : List SAttr) (tail : List Char) (st : Stack) (c : Char) (z : List Char)
    (hq : qnameOk q = true) (has : as.all SAttr.ok = true) (ht : wsOk tail = true) (hc : isNameChar c = false) :
    tokenizeFrom .content st ('<' :: (renderQ q ++ (renderAttrs as ++ (tail ++ c :: z)))) =
      tokenizeFrom (.tag q (as.map SAttr.raw)) st (tail ++ c :: z) := by
  rw [tokenizeFrom_step (lexStep_tagName q _ hq (noName_attrs as tail c z has ht hc)), applyEv_none]
  simp only [pre_nil]
  rw [tok_attrs q st _ as [] has]
  simp

theorem tok_header (q : QName) (as : List SAttr) (tail : List Char) (st : Stack) (rest : List Char)
    (hq : qnameOk q = true) (has : as.all SAttr.ok = true) (ht : wsOk tail = true) :
    tokenizeFrom .content st (renderOpen q as tail ++ rest) =
      (tokenizeFrom .content (⟨q, envOf (curEnv st) as⟩ :: st) rest).pre [startTok (curEnv st) q as] := by
  simp only [renderOpen, List.cons_append, List.append_assoc, List.nil_append]
  rw [tok_open q as tail st '>' _ hq has ht (by decide), tokenizeFrom_step (lexStep_tagEnd q _ tail _ ht)]
  simp only [applyEv, Bool.false_eq_true, if_false, startTok, envOf]

theorem tok_endTag (q : QName) (env : Env) (st : Stack) (etail rest : List Char) (hq : qnameOk q = true)
    (het : wsOk etail = true) :
    tokenizeFrom .content (⟨q, env⟩ :: st) ('<' :: '/' :: (renderQ q ++ (etail ++ '>' :: rest))) =
      (tokenizeFrom .content st rest).pre [.stop (mkName (translate env true q))] := by
  rw [tokenizeFrom_step (lexStep_endTag q etail rest hq het)]
  simp [applyEv]

theorem tok_close (q : QName) (env : Env) (st : Stack) (rest : List Char) (hq : qnameOk q = true) :
    tokenizeFrom .content (⟨q, env⟩ :: st) (renderClose q ++ rest) =
      (tokenizeFrom .content st rest).pre [.stop (mkName (translate env true q))] := by
  simpa [renderClose] using tok_endTag q env st [] rest hq rfl

/-- the declaration is one lexical step: so it is on its own (by evaluation), hence in front of anything -/
theorem tok_xmlDecl (st : Stack) (rest : List Char) :
    tokenizeFrom .content st (xmlDecl ++ rest) =
      (tokenizeFrom .content st rest).pre [.pi "xml" "version='1.0'"] := by
  have h : lexStep .content xmlDecl =
      .ok (.content, .pi ['x', 'm', 'l'] ['v', 'e', 'r', 's', 'i', 'o', 'n', '=', '\'', '1', '.', '0', '\'']) [] := by
    decide +kernel
  rw [tokenizeFrom_step ((good1_lexStep .content xmlDecl _ _ h).2 rest)]
  rfl

/- `C02B_roundtrip` is `rt_list` -/
mutual
theorem rt_tree (t : STree) : ∀ (st : Stack) (rest : List Char), t.ok = true → (t.isText = true → StartsLt rest) →
    tokenizeFrom .content st (render t ++ rest) = (tokenizeFrom .content st rest).pre (btoks (curEnv st) t) := by
  cases t with
  | elem q as tail kids etail =>
    intro st rest hok _
    simp only [STree.ok, Bool.and_eq_true] at hok
    obtain ⟨⟨⟨⟨hq, has⟩, ht⟩, het⟩, hkids⟩ := hok
    have hr : render (.elem q as tail kids etail) ++ rest =
        renderOpen q as tail ++ (renderL kids ++ '<' :: '/' :: (renderQ q ++ (etail ++ '>' :: rest))) := by
      simp [render, renderOpen]
    rw [hr, tok_header q as tail st _ hq has ht, rt_list kids _ _ hkids (fun _ => ⟨_, rfl⟩),
      tok_endTag q _ st etail rest hq het, pre_pre, pre_pre]
    rfl
  | empty q as tail =>
    intro st rest hok _
    simp only [STree.ok, Bool.and_eq_true] at hok
    obtain ⟨⟨hq, has⟩, ht⟩ := hok
    simp only [render, List.cons_append, List.append_assoc, List.nil_append]
    rw [tok_open q as tail st '/' _ hq has ht (by decide), tokenizeFrom_step (lexStep_selfClose q _ tail _ ht)]
    simp only [applyEv, if_true, btoks, startTok, stopTok, envOf]
  | text ps | cdata s | comment s | pi t sep d =>
    intro st rest hok hlt
    rw [tokenizeFrom_step (lexStep_leaf rfl hok rest hlt)]
    rfl
theorem rt_list (ts : List STree) : ∀ (st : Stack) (rest : List Char), okL ts = true → (lastIsText ts = true → StartsLt rest) →
    tokenizeFrom .content st (renderL ts ++ rest) = (tokenizeFrom .content st rest).pre (btoksL (curEnv st) ts) := by
  cases ts with
  | nil => intro st rest _ _; simp [renderL, btoksL, pre_nil]
  | cons t us =>
    intro st rest hok hlast
    -- taken before `cases us`, so that the structural recursion is on `t` and `us` themselves
    have ht := rt_tree t
    have hus := rt_list us
    cases us with
    | nil =>
      simp only [okL] at hok
      simp only [renderL, List.append_nil, btoksL]
      rw [ht st rest hok (fun h => hlast (by simpa [lastIsText] using h))]
    | cons u r =>
      simp only [okL, Bool.and_eq_true, Bool.not_eq_true'] at hok
      obtain ⟨⟨hto, hadj⟩, hrest⟩ := hok
      simp only [renderL, List.append_assoc, btoksL]
      have hnext : t.isText = true → StartsLt (render u ++ (renderL r ++ rest)) := by
        intro htx
        have : u.isText = false := by simpa [htx] using hadj
        exact startsLt_of_nonText u _ this
      rw [ht st _ hto hnext]
      have := hus st rest hrest (fun h => hlast (by simpa [lastIsText] using h))
      simp only [renderL, List.append_assoc, btoksL] at this
      rw [this, pre_pre]
end

/- `C02B_tokens_of_resolved` is `erase_list` -/
mutual
theorem erase_tree (env : Env) (t : STree) :
    eraseL (btoks env t) = XmppVerif.Model.C02.toks (resolve env t) := by
  cases t with
  | elem q as tail kids etail =>
    have := erase_list (envOf env as) kids
    simp only [eraseL] at this
    simp [btoks, resolve, XmppVerif.Model.C02.toks, eraseL, startTok, stopTok, BTok.erase, this]
  | empty q as tail =>
    simp [btoks, resolve, XmppVerif.Model.C02.toks, XmppVerif.Model.C02.toksL, eraseL, startTok, stopTok, BTok.erase]
  | text ps | cdata s | comment s | pi t sep d => simp [btoks, resolve, XmppVerif.Model.C02.toks, eraseL, BTok.erase]
theorem erase_list (env : Env) (ts : List STree) :
    eraseL (btoksL env ts) = XmppVerif.Model.C02.toksL (resolveL env ts) := by
  cases ts with
  | nil => simp [btoksL, resolveL, XmppVerif.Model.C02.toksL, eraseL]
  | cons t us =>
    have h1 := erase_tree env t
    have h2 := erase_list env us
    simp only [eraseL] at h1 h2
    simp [btoksL, resolveL, XmppVerif.Model.C02.toksL, eraseL, h1, h2]
end

end XmppVerif.Proofs.C02Bytes
