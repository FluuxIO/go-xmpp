import XmppVerif.Proofs.C01Loop
namespace XmppVerif.Proofs.C01
open XmppVerif.Model.C01 XmppVerif.Spec.C01 XmppVerif.Props.C01

@[elab_as_elim]
theorem conforms_induction {motive : List Field → List FVal → Prop} (nil : motive [] [])
    (cons : ∀ f fs v vs, fvalOk f.kind v = true → motive fs vs → motive (f :: fs) (v :: vs)) :
    ∀ (fs : List Field) (vs : List FVal), conforms fs vs = true → motive fs vs
  | [], [], _ => nil
  | [], _ :: _, h => by cases h
  | _ :: _, [], h => by cases h
  | f :: fs, v :: vs, h => by
    simp only [conforms, Bool.and_eq_true] at h
    exact cons f fs v vs h.1 (conforms_induction nil cons fs vs h.2)

theorem encField_ok (k : FKind) (v : FVal) (h : fvalOk k v = true) :
    decField k (encField k v) = some v ∧ (match encField k v with | some t => legal t | none => true) = true := by
  cases k with
  | str om => cases v with
    | str s => cases om <;> cases s <;> simp [encField, decField, show legal _ = true from h]
    | _ => cases h
  | uint om => cases v with
    | uint n =>
      have hn : n < 2 ^ 64 := by simpa [fvalOk] using h
      by_cases hz : (om && n == 0) = true
      · have hz' : om = true ∧ n = 0 := by simpa using hz
        rw [hz'.1, hz'.2]
        exact ⟨rfl, rfl⟩
      · simp [encField, decField, hz, showNat_ne_nil, trimSpace_showNat, parseUint64_showNat n hn, legal_showNat]
    | _ => cases h
  | uintPtr => cases v with
    | uintPtr o => cases o with
      | none => exact ⟨rfl, rfl⟩
      | some n =>
        have hn : n < 2 ^ 64 := by simpa [fvalOk] using h
        simp [encField, decField, showNat_ne_nil, trimSpace_showNat, parseUint64_showNat n hn, legal_showNat]
    | _ => cases h
  | boolPtr => cases v with
    | boolPtr o => cases o with
      | none => exact ⟨rfl, rfl⟩
      | some b => cases b <;> decide
    | _ => cases h

/-- `pairs` stays the whole list of written pairs while the induction runs down the fields: every lookup is made in the
one attribute list of the element. -/
theorem decFields_ok (attrs : List Attr) (pairs : List (Str × Option Str))
    (hlook : ∀ p ∈ pairs, lastAttr? p.1 attrs = p.2) (fs : List Field) (vs : List FVal)
    (hc : conforms fs vs = true) : (∀ p ∈ pairsOf fs vs, p ∈ pairs) → decFields attrs fs = some vs := by
  refine conforms_induction (fun _ => rfl) (fun f fs v vs hv ih hsub => ?_) fs vs hc
  have h1 : lastAttr? f.name attrs = encField f.kind v := hlook _ (hsub _ (List.mem_cons_self ..))
  have h2 := ih fun p hp => hsub p (List.mem_cons_of_mem _ hp)
  simp only [decFields, h1, (encField_ok f.kind v hv).1, h2]

theorem pairsOf_keys (fs : List Field) (vs : List FVal) (h : conforms fs vs = true) :
    (pairsOf fs vs).map (·.1) = fs.map (·.name) := by
  refine conforms_induction rfl (fun f fs v vs _ ih => ?_) fs vs h
  simp only [pairsOf, List.map_cons, ih]

theorem pairsOf_ok (fs : List Field) (vs : List FVal) (h : conforms fs vs = true) :
    (fs.map (·.name)).all keyOk = true → (pairsOf fs vs).all pairOk = true := by
  refine conforms_induction (fun _ => rfl) (fun f fs v vs hv ih hk => ?_) fs vs h
  simp only [List.map_cons, List.all_cons, Bool.and_eq_true] at hk
  simp only [pairsOf, List.all_cons, Bool.and_eq_true, pairOk]
  exact ⟨⟨hk.1, (encField_ok f.kind v hv).2⟩, ih hk.2⟩

theorem flat_rt (ctx : Str) (s : Schema) (v : FlatVal) (hs : s.wf = true) (hv : v.wf s = true) :
    decFlat s (view ctx (encFlat s v)) = some v := by
  obtain ⟨vals, inner⟩ := v
  simp only [Schema.wf, Bool.and_eq_true, Bool.not_eq_true', List.isEmpty_eq_false_iff] at hs
  obtain ⟨⟨⟨⟨hname, hsp⟩, hleg⟩, hkeys⟩, hdist⟩ := hs
  simp only [FlatVal.wf, Bool.and_eq_true] at hv
  obtain ⟨hconf, hinner⟩ := hv
  have hpk := pairsOf_keys s.fields vals hconf
  have hlook := lastAttr?_written (pairsOf s.fields vals) (hpk ▸ hkeys) (hpk ▸ hdist) [⟨⟨[], xmlnsL⟩, s.name.space⟩] rfl
  have hf := decFields_ok (⟨⟨[], xmlnsL⟩, s.name.space⟩ :: mkAttrs (pairsOf s.fields vals)) _ hlook s.fields vals hconf
    fun p hp => hp
  rw [encFlat, view_qual ctx _ _ _ _ hsp hleg (viewAttrs_mkAttrs _ [] (pairsOf_ok s.fields vals hconf hkeys))]
  simp only [decFlat, true_and, or_true, if_true, hf]
  cases hi : s.inner with
  | false =>
    rw [hi] at hinner
    have : inner = [] := by simpa using hinner
    simp [this]
  | true =>
    cases inner with
    | nil => simp [viewL, innerOf]
    | cons c r => simp [viewL, view, innerOf]

end XmppVerif.Proofs.C01
