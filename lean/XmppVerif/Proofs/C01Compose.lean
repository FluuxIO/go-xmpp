import XmppVerif.Props.C01Schema
import XmppVerif.Model.C01Compose
import XmppVerif.Proofs.C01IQ
/-
A stanza together with its registered extensions / payload (Props/C01Compose.lean), and what the name-dispatching
decoders and Command share with it. The child loops are read as those of the plain envelopes (Proofs/C01Msg.lean), and
the state after each piece the fields wrote is named. The envelope's own children write no `xmlns` (`noDecl`), so they
are seen as there and read by the same lemmas; then come the children of a list of values (`foldKids_flatMap`). A value
of a reflection-coded Go type with a tagged XMLName (`Tagged`) is one child, found again by its name (`tagged_rt`;
through the registry: `registered_kid`).
-/
namespace XmppVerif.Proofs.C01S
open XmppVerif.Model.C01
open XmppVerif.Model.C01S XmppVerif.Spec.C01 XmppVerif.Props.C01 XmppVerif.Proofs.C01 XmppVerif.Props.C01S

theorem declNs_encAttrs (a : Attrs) : declNs (encAttrs a) = none := by
  have := declNs_mkAttrs (stanzaPairs a) [] (by simp only [stanzaPairs, List.map_cons, List.map_nil]; decide)
  rwa [List.append_nil] at this

theorem noDecl_optText (name s : Str) : noDeclL (optText name s) = true := by
  unfold optText; split <;> simp [noDeclL, noDecl, declNs]

theorem noDecl_errElem (e : Err) : noDecl (errElem e) = true := by
  have h1 : declNs (mkAttrs (errPairs e)) = none := by
    have := declNs_mkAttrs (errPairs e) [] (by simp only [errPairs, List.map_cons, List.map_nil]; decide)
    rwa [List.append_nil] at this
  -- the reason and the text are written as elements without attributes
  have h2 : ∀ (n : Name) (ks : List El), noDecl (.elem n [] ks) = noDeclL ks := fun _ _ => rfl
  have h3 : ∀ (nl : Bool) (s : Str), noDecl (.text nl s) = true := fun _ _ => rfl
  rw [errElem_eq, noDecl, h1, noDeclL_append]
  split <;> split <;> simp [h2, h3, noDeclL]

theorem noDecl_encErr (e : Err) : noDeclL (encErr e) = true := by
  unfold encErr; split <;> simp [noDeclL, noDecl_errElem]

theorem regWinner_none (pkt : String) (ctx : Str) (loc : String) (h : ctxOkX ctx = true) :
    regWinner pkt (String.ofList ctx) loc = none := by
  have : regEntries.filter (fun e => e.1 == pkt && e.2.1 == String.ofList ctx && e.2.2.1 == loc) = [] := by
    rw [List.filter_eq_nil_iff]
    intro e he
    have := List.all_eq_true.mp h e he
    simp only [bne_iff_ne, ne_eq] at this
    simp [this]
  simp [regWinner, this]

theorem regLookup_none (pkt : String) (ctx loc : Str) (h : ctxOkX ctx = true) : regLookup pkt ⟨ctx, loc⟩ = none := by
  simp only [regLookup, regWinner_none pkt ctx _ h]
  split <;> rfl

def Tagged (x : Ext) (n : Name) : Prop :=
  (∃ tn hs ts, x.schema = .struct tn (.tag n) hs ts) ∧ Ty.wf x.schema = true ∧ x.v.fits x.schema = true

/-- Such a value is written as ONE element named `n`, whatever field holds it and whatever the parent's namespace; the
decoder sees it under the same local name - and under the very name `n` when `n` has a namespace of its own -, and
DecodeElement on a fresh value of its Go type reads it back. -/
theorem tagged_rt (x : Ext) (n : Name) (h : Tagged x n) (ps : Str) (fn : Name) (om : Bool) (ctx : Str) :
    ∃ n' a ks, viewSL ctx (encD ps fn om x.schema x.v) = [.elem n' a ks] ∧ n'.loc = n.loc ∧
      (n.space ≠ [] → legal n.space = true → n' = n) ∧ decExt x.ty (.elem n' a ks) = some x := by
  obtain ⟨⟨tn, hs, ts, hsch⟩, hwf, hfit⟩ := h
  rw [hsch] at hwf hfit
  obtain ⟨a, ks, henc, hdec⟩ := C01_schema_roundtrip_el_tagged ctx ps fn om tn n hs ts x.v hwf hfit
  rw [viewS_elem] at hdec
  refine ⟨⟨nsOfS ctx n a, n.loc⟩, _, _, by rw [hsch, henc, viewSL_one, viewS_elem], rfl, ?_, ?_⟩
  · intro hsp hleg
    rw [nsOfS_own ctx n a hsp hleg]
  · rw [decExt, show schemaOf x.ty = x.schema from rfl, hsch, hdec]
    rfl

theorem extOk_tagged (pkt : String) (x : Ext) (h : extOk pkt x = true) :
    ∃ n, Tagged x n ∧ n.space ≠ [] ∧ legal n.space = true ∧ regLookup pkt n = some x.ty := by
  unfold extOk at h
  split at h
  · rename_i tn n hs ts hsch
    simp only [Bool.and_eq_true, Bool.not_eq_true', List.isEmpty_eq_false_iff, beq_iff_eq] at h
    obtain ⟨⟨⟨⟨hwf, hfit⟩, hsp⟩, hleg⟩, hreg⟩ := h
    exact ⟨n, ⟨⟨tn, hs, ts, hsch⟩, hwf, hfit⟩, hsp, hleg, hreg⟩
  · cases h

/-- the class of the name-dispatching loops (`DVal.wf`, `CmdEl.wf`): the type is decoded in the arm labelled with the
local name of its tagged XMLName -/
theorem caseOk_tagged (cases : List (String × String)) (x : Ext)
    (h : (match x.schema with
      | .struct _ (.tag n) _ _ =>
        Ty.wf x.schema && x.v.fits x.schema && cases.lookup (String.ofList n.loc) == some x.ty
      | _ => false) = true) :
    ∃ n, Tagged x n ∧ cases.lookup (String.ofList n.loc) = some x.ty := by
  split at h
  · rename_i tn n hs ts hsch
    simp only [Bool.and_eq_true, beq_iff_eq] at h
    exact ⟨n, ⟨⟨tn, hs, ts, hsch⟩, h.1⟩, h.2⟩
  · cases h

/-- A registered extension / payload read by a loop `f` that asks the registry first: all `f` has to do with the one
element written is what it does with ANY element whose name the registry maps to the value's type and which
DecodeElement reads back as the value. -/
theorem registered_kid {α : Type} (f : α → El → Option α) (a a' : α) (pkt field : String) (ctx : Str) (x : Ext)
    (hx : extOk pkt x = true)
    (hf : ∀ n at' ks, Tagged x n → regLookup pkt n = some x.ty → decExt x.ty (.elem n at' ks) = some x →
      f a (.elem n at' ks) = some a') :
    foldKids f a (viewSL ctx (encExt field x)) = some a' := by
  obtain ⟨n, ht, hsp, hleg, hreg⟩ := extOk_tagged pkt x hx
  obtain ⟨n', at', ks, hv, -, hn, hdec⟩ := tagged_rt x n ht [] ⟨[], field.toList⟩ true ctx
  obtain rfl := hn hsp hleg
  rw [encExt, hv, foldKids_one, hf n' at' ks ht hreg hdec]

/-- a child in the stanza's own namespace is not a registered extension: the loop falls through to the switch -/
theorem msgKidX_own (ctx : Str) (hctx : ctxOkX ctx = true) (m : MessageX) (loc : Str) (a : List Attr) (ks : List El) :
    msgKidX m (.elem ⟨ctx, loc⟩ a ks) = some { m with base := msgKidB m.base (.elem ⟨ctx, loc⟩ a ks) } := by
  simp only [msgKidX, regLookup_none _ ctx loc hctx]

theorem msgx_rt (ctx : Str) (m : MessageX) (hctx : ctxOkX ctx = true) (hw : m.wf = true) :
    decMessageX (viewS ctx (encMessageX m)) = some m := by
  obtain ⟨b, xs⟩ := m
  simp only [MessageX.wf, Bool.and_eq_true] at hw
  obtain ⟨hb, hx⟩ := hw
  have ha : b.attrs.wf = true := by
    simp only [Message.wf, Bool.and_eq_true] at hb
    exact hb.1.1.1.1
  have hnd : noDeclL (optText subjectL b.subject ++ optText bodyL b.body ++ optText threadL b.thread ++
      encErr b.error) = true := by
    simp [noDeclL_append, noDecl_optText, noDecl_encErr]
  have kown := msg_own_kids msgKidX (fun b => ⟨b, []⟩) ctx
    (fun m loc a ks _ => msgKidX_own ctx hctx ⟨m, []⟩ loc a ks) b hb
  have kexts : foldKids msgKidX ⟨b, []⟩ (viewSL ctx (xs.flatMap (encExt "Extensions"))) = some ⟨b, xs⟩ := by
    rw [viewSL_flatMap]
    exact foldKids_flatMap msgKidX _ (fun l => ⟨b, l⟩) xs []
      fun x hx' pre => registered_kid msgKidX _ _ _ _ ctx x (List.all_eq_true.mp hx x hx')
        fun n at' ks _ hreg hdec => by simp only [msgKidX, hreg, hdec, Option.map_some]
  rw [encMessageX, viewS_unqual ctx _ _ _ (attrs_view b.attrs ha) (declNs_encAttrs b.attrs), decMessageX,
    decAttrs_encAttrs, viewSL_append, viewSL_eq_viewL ctx _ hnd, foldKids_append, kown, Option.bind_some, kexts]

theorem presKidX_own (ctx : Str) (hctx : ctxOkX ctx = true) (p : PresenceX) (loc : Str) (a : List Attr) (ks : List El) :
    presKidX p (.elem ⟨ctx, loc⟩ a ks) =
      (presKidB p.base (.elem ⟨ctx, loc⟩ a ks)).map fun b => { p with base := b } := by
  simp only [presKidX, regLookup_none _ ctx loc hctx]

theorem presx_rt (ctx : Str) (p : PresenceX) (hctx : ctxOkX ctx = true) (hw : p.wf = true) :
    decPresenceX (viewS ctx (encPresenceX p)) = some p := by
  obtain ⟨b, xs⟩ := p
  simp only [PresenceX.wf, Bool.and_eq_true] at hw
  obtain ⟨hb, hx⟩ := hw
  have ha : b.attrs.wf = true := by
    simp only [Presence.wf, Bool.and_eq_true] at hb
    exact hb.1.1.1.1
  have hnd : noDeclL (optText showL b.show_ ++ optText statusL b.status ++
      (if b.priority = 0 then [] else [.elem ⟨[], priorityL⟩ [] [.text true (showInt b.priority)]]) ++
      encErr b.error) = true := by
    simp only [noDeclL_append, noDecl_optText, noDecl_encErr, Bool.and_true]
    split <;> rfl
  have kown := pres_own_kids presKidX (fun b => ⟨b, []⟩) ctx
    (fun p loc a ks _ => presKidX_own ctx hctx ⟨p, []⟩ loc a ks) b hb
  have kexts : foldKids presKidX ⟨b, []⟩ (viewSL ctx (xs.flatMap (encExt "Extensions"))) = some ⟨b, xs⟩ := by
    rw [viewSL_flatMap]
    exact foldKids_flatMap presKidX _ (fun l => ⟨b, l⟩) xs []
      fun x hx' pre => registered_kid presKidX _ _ _ _ ctx x (List.all_eq_true.mp hx x hx')
        fun n at' ks _ hreg hdec => by simp only [presKidX, hreg, hdec, Option.map_some]
  rw [encPresenceX, viewS_unqual ctx _ _ _ (attrs_view b.attrs ha) (declNs_encAttrs b.attrs), decPresenceX,
    decAttrs_encAttrs, viewSL_append, viewSL_eq_viewL ctx _ hnd, foldKids_append, kown, Option.bind_some, kexts]

theorem iqKidX_payload (ctx : Str) (q : IQX) (x : Ext) (hx : extOk "PKTIQ" x = true)
    (hne : (match x.schema with | .struct _ (.tag n) _ _ => n.loc != errorL | _ => false) = true) :
    foldKids iqKidX q (viewSL ctx (encExt "Payload" x)) = some { q with payload := some x } :=
  registered_kid iqKidX _ _ _ _ ctx x hx fun n a ks ht hreg hdec => by
    obtain ⟨⟨tn, hs, ts, hsch⟩, -⟩ := ht
    rw [hsch] at hne
    have hloc : n.loc ≠ errorL := by simpa using hne
    simp only [iqKidX, hloc, if_false, hreg, hdec, Option.map_some]

theorem iqKidX_error (ctx : Str) (q : IQX) (e : Err) (he : e.wf = true) :
    iqKidX q (viewS ctx (errElem e)) = some { q with error := some e } := by
  have hrt := err_rt ctx e he
  obtain ⟨a, ks, hv⟩ := view_errElem ctx e
  rw [viewS_eq_view ctx _ (noDecl_errElem e)]
  rw [hv] at hrt ⊢
  simp only [iqKidX, errorL, if_true, hrt]

theorem iqKidX_any (ctx : Str) (q : IQX) (n : Name) (a : List Attr) (c : Str) (ns : List Tree)
    (hwf : (Tree.mk n a c ns).wf ctx = true) (hne : n.loc ≠ errorL)
    (hreg : regLookup "PKTIQ" ⟨nsOf ctx n, n.loc⟩ = none) :
    iqKidX q (viewS ctx (encNode (.mk n a c ns))) = some { q with any := some (.mk n a c ns) } := by
  simp only [Tree.wf, Bool.and_eq_true, Bool.not_eq_true'] at hwf
  obtain ⟨as, ks, hv, hdec⟩ := viewS_encNode_elem ctx n a c ns hwf.1.1 hwf.1.2 hwf.2
  rw [hv]
  simp only [iqKidX, hne, if_false, hreg, hdec, Option.map]

theorem iqx_rt (ctx : Str) (q : IQX) (hw : q.wf ctx = true) : decIQX (viewS ctx (encIQX q)) = some q := by
  obtain ⟨a, pl, e, t⟩ := q
  simp only [IQX.wf, Bool.and_eq_true] at hw
  obtain ⟨⟨⟨ha, hpl⟩, he⟩, ht⟩ := hw
  rw [encIQX, viewS_unqual ctx _ _ _ (attrs_view a ha) (declNs_encAttrs a)]
  simp only [decIQX, decAttrs_encAttrs, viewSL_append, foldKids_append]
  have hpayload : ∀ x, pl = some x → ∀ q : IQX,
      foldKids iqKidX q (viewSL ctx (encExt "Payload" x)) = some { q with payload := some x } := by
    intro x hx q
    subst hx
    simp only [Bool.and_eq_true] at hpl
    exact iqKidX_payload ctx q x hpl.1 hpl.2
  have herror : ∀ e', e = some e' → ∀ q : IQX,
      foldKids iqKidX q (viewSL ctx (encErr e')) = some { q with error := some e' } := by
    intro e' hx q
    subst hx
    simp only [Bool.and_eq_true, Bool.not_eq_true'] at he
    simp only [encErr, he.2, Bool.false_eq_true, if_false, viewSL_one, foldKids_one, iqKidX_error ctx q e' he.1]
  have hany : ∀ t', t = some t' → ∀ q : IQX,
      foldKids iqKidX q [viewS ctx (encNode t')] = some { q with any := some t' } := by
    intro t' hx q
    subst hx
    cases t' with
    | mk n a' c ns =>
      simp only [Bool.and_eq_true, bne_iff_ne, ne_eq, Option.isNone_iff_eq_none] at ht
      simp only [foldKids_one, iqKidX_any ctx q n a' c ns ht.1.1 ht.1.2 ht.2]
  cases pl <;> cases e <;> cases t <;>
    simp [viewSL, foldKids_nil, hpayload, herror, hany]

end XmppVerif.Proofs.C01S
