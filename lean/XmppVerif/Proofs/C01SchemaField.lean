import XmppVerif.Proofs.C01SchemaKids
/- One field of a struct, given the round trip of its element type. -/
namespace XmppVerif.Proofs.C01S
open XmppVerif.Model.C01
open XmppVerif.Model.C01S XmppVerif.Spec.C01 XmppVerif.Props.C01 XmppVerif.Proofs.C01

/-- element-level round trip of an element type `t` written for the field name `fn` (`pns`: the enclosing element has
a namespace of its own - then `ps`, its Space, is not empty) -/
def RtE (t : Ty) (fn : Name) (pns : Bool) : Prop :=
  ∀ (ctx ps : Str) (om : Bool) (v : Val), (pns = true → ps ≠ []) → Val.fitsE fn t v = true →
    ∃ n a ks, encD ps fn om t v = [.elem n a ks] ∧ n.loc = fn.loc ∧
      (fn.space = [] ∨ nsOfS ctx n a = fn.space) ∧ decInto t (zero t) (viewS ctx (.elem n a ks)) = some v

/-- what marshalStruct writes for one field -/
def fieldKids (ps : Str) (h : Hdr) (t : Ty) (v : Val) : List El :=
  if h.mode = .elem ∨ h.mode = .any then (if h.om && isEmptyVal v then [] else encD ps h.name h.om t v) else []

/-- field-level round trip: the child loop, run over what the field wrote, turns the field's zero value into `v` and
touches no other field -/
def FieldOK (pns : Bool) (h : Hdr) (t : Ty) : Prop :=
  ∀ (ctx ps : Str) (v : Val) (hp hs : List Hdr) (tp ts : List Ty) (pv sv : List Val), (pns = true → ps ≠ []) →
    hp.length = tp.length → hp.length = pv.length → noneTakes hp h.name.loc → Val.fitsF h.name h.om t v = true →
    foldKids (decKid (hp ++ h :: hs) (tp ++ t :: ts)) (pv ++ zero t :: sv) (viewSL ctx (fieldKids ps h t v)) =
      some (pv ++ v :: sv)

theorem kid_step (ctx : Str) (h : Hdr) (hm : h.mode = .elem) (t : Ty) (cur : Val) (n : Name) (a : List Attr)
    (ks : List El) (hl : n.loc = h.name.loc) (hsp : h.name.space = [] ∨ nsOfS ctx n a = h.name.space)
    (hp hs : List Hdr) (tp ts : List Ty) (pv sv : List Val) (h1 : hp.length = tp.length) (h2 : hp.length = pv.length)
    (hno : noneTakes hp h.name.loc) :
    decKid (hp ++ h :: hs) (tp ++ t :: ts) (pv ++ cur :: sv) (viewS ctx (.elem n a ks)) =
      (decInto t cur (viewS ctx (.elem n a ks))).map fun x => pv ++ x :: sv := by
  rw [viewS_elem]
  exact decKid_at hp hs tp ts pv sv h t cur _ _ _ h1 h2 (fun h' hh => by rw [hl]; exact hno h' hh _)
    (hdrTakes_own h _ _ hm hl hsp)

theorem field_E (pns : Bool) (h : Hdr) (hm : h.mode = .elem) (t : Ty) (hrt : RtE t h.name pns)
    (hfit : ∀ v, Val.fitsF h.name h.om t v = Val.fitsE h.name t v)
    (hez : ∀ v, Val.fitsE h.name t v = true → isEmptyVal v = true → v = zero t) : FieldOK pns h t := by
  intro ctx ps v hp hs tp ts pv sv hps h1 h2 hno hf
  rw [hfit] at hf
  simp only [fieldKids, hm, true_or, if_true]
  by_cases he : (h.om && isEmptyVal v) = true
  · have hz : v = zero t := hez v hf (by simp at he; exact he.2)
    rw [if_pos he]
    simp only [viewSL, foldKids_nil, hz]
  · obtain ⟨n, a, ks, henc, hl, hsp, hdec⟩ := hrt ctx ps h.om v hps hf
    rw [if_neg he, henc, viewSL_one, foldKids_one]
    rw [kid_step ctx h hm t _ n a ks hl hsp hp hs tp ts pv sv h1 h2 hno, hdec]
    rfl

theorem fitsF_E {fn : Name} {pns : Bool} {e : Ty} (hw : Ty.wfE fn pns e = true) (om : Bool) (v : Val) :
    Val.fitsF fn om e v = Val.fitsE fn e v := by
  rcases wfE_cases fn pns e hw with ⟨k, rfl⟩ | ⟨tn, xn, hs, ts, rfl⟩ <;> cases v <;> rfl

theorem empty_is_zeroE {fn : Name} {pns : Bool} {e : Ty} (hw : Ty.wfE fn pns e = true) (v : Val)
    (hv : Val.fitsE fn e v = true) (he : isEmptyVal v = true) : v = zero e := by
  rcases wfE_cases fn pns e hw with ⟨k, rfl⟩ | ⟨tn, xn, hs, ts, rfl⟩
  · exact empty_is_zero k v hv he
  · cases v <;> first | cases hv | cases he

theorem fitsF_iface {fn : Name} {om : Bool} {v : Val} (h : Val.fitsF fn om .iface v = true) : v = .nil := by
  cases v <;> first | rfl | cases h

theorem fitsF_ptrU {fn : Name} {om : Bool} {w : String} {v : Val}
    (h : Val.fitsF fn om (.ptr (.unsupported w)) v = true) : v = .nil := by
  cases v <;> first | rfl | cases h

theorem fitsF_history {fn : Name} {om : Bool} {v : Val} (h : Val.fitsF fn om .history v = true) :
    ∃ a b c, v = .history a b c ∧ histFits a b c = true := by
  cases v with
  | history a b c => exact ⟨a, b, c, rfl, h⟩
  | _ => cases h

theorem fitsF_ptr {fn : Name} {pns : Bool} {e : Ty} (hw : Ty.wfE fn pns e = true) {om : Bool} {v : Val}
    (h : Val.fitsF fn om (.ptr e) v = true) : v = .nil ∨ ∃ x, v = .ref x ∧ Val.fitsE fn e x = true := by
  rcases wfE_cases fn pns e hw with ⟨k, rfl⟩ | ⟨tn, xn, hs, ts, rfl⟩ <;> cases v with
  | nil => exact Or.inl rfl
  | ref x => exact Or.inr ⟨x, rfl, h⟩
  | _ => cases h

theorem fitsF_slice {fn : Name} {pns : Bool} {e : Ty} (hw : Ty.wfE fn pns e = true) {om : Bool} {v : Val}
    (h : Val.fitsF fn om (.slice e) v = true) :
    ∃ l, v = .slice l ∧ ∀ x ∈ l, Val.fitsE fn e x = true ∧ (om && isEmptyVal x) = false := by
  rcases wfE_cases fn pns e hw with ⟨k, rfl⟩ | ⟨tn, xn, hs, ts, rfl⟩ <;> cases v with
  | slice l =>
    refine ⟨l, rfl, fun x hx => ?_⟩
    have := List.all_eq_true.mp h x hx
    simp only [Bool.and_eq_true, Bool.not_eq_true'] at this
    exact this
  | _ => cases h

theorem fitsF_slicePtr {fn : Name} {e : Ty} {om : Bool} {v : Val} (h : Val.fitsF fn om (.slice (.ptr e)) v = true) :
    ∃ l, v = .slice l ∧ ∀ x ∈ l, ∃ y, x = .ref y ∧ Val.fitsE fn e y = true := by
  cases v with
  | slice l =>
    refine ⟨l, rfl, fun x hx => ?_⟩
    have := List.all_eq_true.mp h x hx
    cases x with
    | ref y => exact ⟨y, rfl, this⟩
    | _ => cases this
  | _ => cases h

theorem field_iface (pns : Bool) (h : Hdr) : FieldOK pns h .iface := by
  intro ctx ps v hp hs tp ts pv sv _ _ _ _ hf
  rw [fitsF_iface hf]
  simp only [fieldKids, encD_iface, ite_self, viewSL, foldKids_nil, zero_iface]

/-- a pointer to a type with a hand-written codec: only nil is in the class -/
theorem field_ptrU (pns : Bool) (h : Hdr) (w : String) : FieldOK pns h (.ptr (.unsupported w)) := by
  intro ctx ps v hp hs tp ts pv sv _ _ _ _ hf
  rw [fitsF_ptrU hf]
  simp only [fieldKids, encD_ptr_nil, ite_self, viewSL, foldKids_nil, zero_ptr]

theorem field_ptr (pns : Bool) (h : Hdr) (hm : h.mode = .elem) (t : Ty) (hw : Ty.wfE h.name pns t = true)
    (hrt : RtE t h.name pns) : FieldOK pns h (.ptr t) := by
  intro ctx ps v hp hs tp ts pv sv hps h1 h2 hno hf
  rcases fitsF_ptr hw hf with rfl | ⟨x, rfl, hx⟩
  · simp only [fieldKids, encD_ptr_nil, ite_self, viewSL, foldKids_nil, zero_ptr]
  · obtain ⟨n, a, ks, henc, hl, hsp, hdec⟩ := hrt ctx ps h.om x hps hx
    simp only [fieldKids, hm, true_or, if_true, isEmptyVal, Bool.and_false, Bool.false_eq_true, if_false,
      encD_ptr_ref, henc, viewSL_one, foldKids_one, zero_ptr]
    rw [kid_step ctx h hm _ _ n a ks hl hsp hp hs tp ts pv sv h1 h2 hno, decInto_ptr_nil _ _ t hw, hdec]
    rfl

theorem slice_fold (ctx : Str) (h : Hdr) (hm : h.mode = .elem) (t : Ty) (enc1 : Val → List El)
    (hp hs : List Hdr) (tp ts : List Ty) (pv sv : List Val) (h1 : hp.length = tp.length) (h2 : hp.length = pv.length)
    (hno : noneTakes hp h.name.loc) :
    ∀ (l acc : List Val),
      (∀ x ∈ l, ∃ n a ks, enc1 x = [.elem n a ks] ∧ n.loc = h.name.loc ∧
        (h.name.space = [] ∨ nsOfS ctx n a = h.name.space) ∧ decInto t (zero t) (viewS ctx (.elem n a ks)) = some x) →
      foldKids (decKid (hp ++ h :: hs) (tp ++ .slice t :: ts)) (pv ++ .slice acc :: sv) (viewSL ctx (l.flatMap enc1)) =
        some (pv ++ .slice (acc ++ l) :: sv) := by
  intro l acc hg
  rw [viewSL_flatMap]
  exact foldKids_flatMap _ _ (fun pre => pv ++ .slice pre :: sv) l acc fun x hx pre => by
    obtain ⟨n, a, ks, henc, hl, hsp, hdec⟩ := hg x hx
    rw [henc, viewSL_one, foldKids_one, kid_step ctx h hm _ _ n a ks hl hsp hp hs tp ts pv sv h1 h2 hno,
      decInto_slice, hdec]
    rfl

/-- an empty slice is an empty value: nothing is written either way -/
theorem fieldKids_slice (ps : Str) (h : Hdr) (hm : h.mode = .elem) (t : Ty) (l : List Val) :
    fieldKids ps h (.slice t) (.slice l) =
      l.flatMap fun x => if h.om && isEmptyVal x then [] else encD ps h.name h.om t x := by
  simp only [fieldKids, hm, true_or, if_true, encD_slice]
  cases l <;> simp [isEmptyVal]

theorem field_slice (pns : Bool) (h : Hdr) (hm : h.mode = .elem) (t : Ty) (hw : Ty.wfE h.name pns t = true)
    (hrt : RtE t h.name pns) : FieldOK pns h (.slice t) := by
  intro ctx ps v hp hs tp ts pv sv hps h1 h2 hno hf
  obtain ⟨l, rfl, hall⟩ := fitsF_slice hw hf
  rw [fieldKids_slice ps h hm, zero_slice]
  exact slice_fold ctx h hm t _ hp hs tp ts pv sv h1 h2 hno l [] fun x hx => by
    obtain ⟨n, a, ks, henc, hl, hsp, hdec⟩ := hrt ctx ps h.om x hps (hall x hx).1
    refine ⟨n, a, ks, ?_, hl, hsp, hdec⟩
    simp only [(hall x hx).2, Bool.false_eq_true, if_false, henc]

theorem field_slicePtr (pns : Bool) (h : Hdr) (hm : h.mode = .elem) (t : Ty) (hw : Ty.wfE h.name pns t = true)
    (hrt : RtE t h.name pns) : FieldOK pns h (.slice (.ptr t)) := by
  intro ctx ps v hp hs tp ts pv sv hps h1 h2 hno hf
  obtain ⟨l, rfl, hall⟩ := fitsF_slicePtr hf
  rw [fieldKids_slice ps h hm, zero_slice]
  exact slice_fold ctx h hm (.ptr t) _ hp hs tp ts pv sv h1 h2 hno l [] fun x hx => by
    obtain ⟨y, rfl, hy⟩ := hall x hx
    obtain ⟨n, a, ks, henc, hl, hsp, hdec⟩ := hrt ctx ps h.om y hps hy
    refine ⟨n, a, ks, ?_, hl, hsp, ?_⟩
    · simp only [isEmptyVal, Bool.and_false, Bool.false_eq_true, if_false, encD_ptr_ref, henc]
    rw [zero_ptr, decInto_ptr_nil _ _ t hw, hdec]; rfl

theorem histAttrs_step (cur next : Option Int × Option Int × Option Int) (k : Str) (o : Option Int)
    (ps : List (Str × Option Str)) (hs : ∀ i, o = some i → histAttr cur ⟨⟨[], k⟩, showInt i⟩ = some next)
    (hn : o = none → next = cur) :
    histAttrs cur (mkAttrs ((k, o.map showInt) :: ps)) = histAttrs next (mkAttrs ps) := by
  cases o with
  | none => rw [hn rfl]; rfl
  | some i => simp only [Option.map, mkAttrs, histAttrs, hs i rfl]

theorem histAttrs_rt (a b c : Option Int) (h : histFits a b c = true) :
    histAttrs (none, none, none) (mkAttrs [(maxcharsL, a.map showInt), (maxstanzasL, b.map showInt),
      (secondsL, c.map showInt)]) = some (a, b, c) := by
  simp only [histFits, Bool.and_eq_true, decide_eq_true_eq] at h
  obtain ⟨⟨ha, hb⟩, hc⟩ := h
  have e1 : ¬ (maxstanzasL = maxcharsL) := by decide
  have e2 : ¬ (secondsL = maxcharsL) := by decide
  have e3 : ¬ (secondsL = maxstanzasL) := by decide
  rw [histAttrs_step (none, none, none) (a, none, none) maxcharsL a _
      (by rintro i rfl; simp [histAttr, parseIntBits_showInt 64 i (ha i rfl)]) (by rintro rfl; rfl),
    histAttrs_step (a, none, none) (a, b, none) maxstanzasL b _
      (by rintro i rfl; simp [histAttr, e1, parseIntBits_showInt 64 i (hb i rfl)]) (by rintro rfl; rfl),
    histAttrs_step (a, b, none) (a, b, c) secondsL c _
      (by rintro i rfl; simp [histAttr, e2, e3, parseIntBits_showInt 64 i (hc i rfl)]) (by rintro rfl; rfl)]
  rfl

theorem histPairs_ok (a b c : Option Int) :
    [(maxcharsL, a.map showInt), (maxstanzasL, b.map showInt), (secondsL, c.map showInt)].all pairOk = true := by
  have k1 : keyOk maxcharsL = true := by decide
  have k2 : keyOk maxstanzasL = true := by decide
  have k3 : keyOk secondsL = true := by decide
  cases a <;> cases b <;> cases c <;> simp [pairOk, k1, k2, k3, legal_showInt]

/-- the History field: nothing written for the all-unset value; otherwise one `<history/>` whose attributes the
hand-written loop reads back -/
theorem field_history (pns : Bool) (h : Hdr) (hm : h.mode = .elem) (hl : h.name.loc = historyL)
    (hsp : h.name.space = []) : FieldOK pns h .history := by
  intro ctx ps v hp hs tp ts pv sv _ h1 h2 hno hf
  obtain ⟨a, b, c, rfl, hfit⟩ := fitsF_history hf
  simp only [fieldKids, hm, true_or, if_true, isEmptyVal, Bool.and_false, Bool.false_eq_true, if_false]
  rw [encD_history, zero_history, encHistory]
  by_cases hall : (a.isNone && b.isNone && c.isNone) = true
  · simp only [hall, if_true, viewSL, foldKids_nil]
    simp only [Bool.and_eq_true, Option.isNone_iff_eq_none] at hall
    rw [hall.1.1, hall.1.2, hall.2]
  · simp only [hall, Bool.false_eq_true, if_false, viewSL_one, foldKids_one]
    rw [kid_step ctx h hm _ _ ⟨[], historyL⟩ _ [] hl.symm (Or.inl hsp) hp hs tp ts pv sv h1 h2 hno]
    rw [viewS_elem]
    simp only [if_true, List.nil_append, decInto_history, viewAttrs_mkAttrs _ [] (histPairs_ok a b c),
      histAttrs_rt a b c hfit]
    rfl


mutual
theorem ownNs_inherits (ctx : Str) (t : Tree) (h : treeOwnNs t = true) : t.inheritsNs ctx = false := by
  cases t with
  | mk n a c ns =>
    simp only [treeOwnNs, Bool.and_eq_true, Bool.not_eq_true', List.isEmpty_eq_false_iff] at h
    have : n.space.isEmpty = false := by simpa using h.1
    simp [Tree.inheritsNs, this, ownNs_inheritsL (nsOf ctx n) ns h.2]
theorem ownNs_inheritsL (ctx : Str) (l : List Tree) (h : treeOwnNsL l = true) : Tree.inheritsNsL ctx l = false := by
  cases l with
  | nil => simp [Tree.inheritsNsL]
  | cons t r =>
    simp only [treeOwnNsL, Bool.and_eq_true] at h
    simp [Tree.inheritsNsL, ownNs_inherits ctx t h.1, ownNs_inheritsL ctx r h.2]
end

theorem mergeNode_empty (t : Tree) : mergeNode emptyTree t = t := by
  cases t; simp [mergeNode, emptyTree]

theorem field_any (ctx ps : Str) (h : Hdr) (hm : h.mode = .any) (v : Val) (hp hs : List Hdr) (tp ts : List Ty)
    (pv sv : List Val) (h1 : hp.length = tp.length) (h2 : hp.length = pv.length)
    (hnoany : ∀ h' ∈ hp, h'.mode ≠ .any) (tk : List Str)
    (htk : ∀ loc, tk.contains loc = false → ∀ h' ∈ hp ++ h :: hs, ∀ sp, hdrTakes h' ⟨sp, loc⟩ = false)
    (hf : anyFits tk v = true) :
    foldKids (decKid (hp ++ h :: hs) (tp ++ .ptr .node :: ts)) (pv ++ .nil :: sv)
      (viewSL ctx (fieldKids ps h (.ptr .node) v)) = some (pv ++ v :: sv) := by
  cases v with
  | nil => simp only [fieldKids, encD_ptr_nil, ite_self, viewSL, foldKids_nil]
  | ref x =>
    cases x with
    | node t =>
      cases t with
      | mk n a c ns =>
        simp only [anyFits, Bool.and_eq_true, Bool.not_eq_true'] at hf
        obtain ⟨⟨⟨hq, hown⟩, hns⟩, htake⟩ := hf
        obtain ⟨as, ks, hv, hdec⟩ := viewS_encNode_elem ctx n a c ns hq (ownNs_inherits ctx _ hown) hns
        simp only [fieldKids, hm, or_true, if_true, isEmptyVal, Bool.and_false, Bool.false_eq_true, if_false,
          encD_ptr_ref, encD_node, viewSL_one, foldKids_one, hv]
        rw [decKid_any hp hs tp ts pv sv h _ _ _ _ _ h1 h2 hm hnoany (fun h' hh => htk n.loc htake h' hh _)]
        rw [decInto_anyNode, hdec]
        simp [mergeNode_empty]
    | _ => simp [anyFits] at hf
  | _ => simp [anyFits] at hf

end XmppVerif.Proofs.C01S
