import XmppVerif.Proofs.C02BytesStable
/-
The token loop `tokenizeFrom` and the incremental reader `drain` / `feed` / `finish`.

Both loops do the same thing at every turn (`turn`): a lexical step completes in the input and `Token` accepts what it
delivers, or the decoder halts. Where it halts, `tokenizeFrom` stops with an outcome and at most one token, character
data that the end of the input ended (`tokenizeFrom_halt`), and `drain` keeps its state. So a run of `tokenizeFrom` is
a run of `drain` followed by a halt (`drain_sem`), the tokens `drain` delivers are the complete tokens of its input
(`drain_out`: promptness, and with it prefix monotonicity), and what is said about the results of the loop is said of
halting results and carried over a turn (`tokenizeFrom_induct`).
-/
namespace XmppVerif.Proofs.C02Bytes
open XmppVerif.Model.C02Bytes

/-- `bind` never hands on `okEof` of its first part: only its last part can give up at the end of the input -/
theorem bind_ne_okEof {α β : Type} {x : R α} {f : α → List Char → R β} {v : β} (h : ∀ a r, f a r ≠ .okEof v) :
    x.bind f ≠ .okEof v := by
  cases x with
  | ok a r => exact h a r
  | _ => nofun

theorem lexPI_ne_okEof (cs : List Char) (v) : lexPI cs ≠ .okEof v :=
  bind_ne_okEof fun _ _ => bind_ne_okEof fun _ _ => bind_ne_okEof fun _ _ => by
    split <;> nofun

theorem lexBang_ne_okEof (cs : List Char) (v) : lexBang cs ≠ .okEof v := by
  unfold lexBang
  split
  · nofun
  · exact bind_ne_okEof fun _ _ => bind_ne_okEof fun _ _ => nofun
  · exact bind_ne_okEof fun _ _ => bind_ne_okEof fun _ _ => nofun
  · nofun

theorem lexMarkup_ne_okEof (cs : List Char) (v) : lexMarkup cs ≠ .okEof v := by
  unfold lexMarkup
  split
  · nofun
  · exact bind_ne_okEof fun _ _ => bind_ne_okEof fun _ _ => bind_ne_okEof fun _ _ => nofun
  · exact lexPI_ne_okEof _ v
  · exact lexBang_ne_okEof _ v
  · exact bind_ne_okEof fun _ _ => nofun

theorem lexTagBody_ne_okEof (q : QName) (as : List RawAttr) (cs : List Char) (v) : lexTagBody q as cs ≠ .okEof v := by
  unfold lexTagBody
  split
  · nofun
  · exact bind_ne_okEof fun _ _ => nofun
  · nofun
  · exact bind_ne_okEof fun _ _ => bind_ne_okEof fun _ _ => bind_ne_okEof fun _ _ => bind_ne_okEof fun _ _ =>
      bind_ne_okEof fun _ _ => bind_ne_okEof fun _ _ => nofun

theorem lexTag_ne_okEof (q : QName) (as : List RawAttr) (cs : List Char) (v) : lexTag q as cs ≠ .okEof v :=
  bind_ne_okEof fun _ _ => lexTagBody_ne_okEof q as _ v

theorem lexStep_okEof {m : Mode} {a : List Char} {v : Mode × Ev} (h : lexStep m a = .okEof v) :
    a ≠ [] ∧ ∃ t, v.2 = .text t := by
  cases m with
  | content =>
    simp only [lexStep] at h
    cases a with
    | nil => simp [lexContent] at h
    | cons c cs =>
      simp only [lexContent] at h
      split at h
      · exact absurd h (lexMarkup_ne_okEof _ _)
      · unfold lexText at h
        split at h <;> simp at h
        exact ⟨by simp, _, by rw [← h]⟩
  | tag q as => exact absurd h (lexTag_ne_okEof _ _ _ _)

theorem tokF_stable : ∀ (f g : Nat) (m : Mode) (st : Stack) (cs : List Char), cs.length < f → cs.length < g →
    tokF f m st cs = tokF g m st cs := by
  intro f
  induction f with
  | zero => intro g m st cs h; simp at h
  | succ f ih =>
    intro g m st cs hf hg
    cases g with
    | zero => simp at hg
    | succ g =>
      simp only [tokF]
      split
      · rfl
      · cases hl : lexStep m cs with
        | ok v rest =>
          obtain ⟨m', ev⟩ := v
          have hlen := (good1_lexStep m cs _ _ hl).1
          simp only
          cases applyEv st ev with
          | none => rfl
          | some p =>
            obtain ⟨st', ts⟩ := p
            simp only
            rw [ih g m' st' rest (by omega) (by omega)]
        | _ => rfl

theorem tokenizeFrom_fuel (f : Nat) (m : Mode) (st : Stack) (cs : List Char) (h : cs.length < f) :
    tokF f m st cs = tokenizeFrom m st cs :=
  tokF_stable f (cs.length + 1) m st cs h (Nat.lt_succ_self _)

theorem applyEv_text (st : Stack) (t : List Char) : applyEv st (.text t) = some (st, [.text (String.ofList t)]) := rfl

theorem applyEv_none (st : Stack) : applyEv st .none = some (st, []) := rfl

/-- `Token` answers one raw token with at most two: a self-closing tag is a start and an end element -/
theorem applyEv_le2 {st st' : Stack} {ev : Ev} {ts : List BTok} (h : applyEv st ev = some (st', ts)) : ts.length ≤ 2 := by
  cases ev with
  | none | text s | comment s | pi t d =>
    cases h
    simp
  | startTag q as sc =>
    cases sc
    all_goals
      cases h
      simp
  | endTag q =>
    -- `none` in every branch but the last, which answers the one end element
    simp only [applyEv] at h
    repeat' split at h
    all_goals cases h
    simp

theorem tokenizeFrom_step {m m' : Mode} {st : Stack} {a r : List Char} {ev : Ev} (h : lexStep m a = .ok (m', ev) r) :
    tokenizeFrom m st a =
      (match applyEv st ev with
       | some (st', ts) => (tokenizeFrom m' st' r).pre ts
       | none => ⟨[], .syntax, false⟩) := by
  have hlen := (good1_lexStep m a _ _ h).1
  have hne : a.isEmpty = false := by cases a <;> simp at hlen ⊢
  unfold tokenizeFrom
  simp only [tokF, hne, Bool.false_and, h]
  cases applyEv st ev with
  | none => simp
  | some p =>
    simp only [Bool.false_eq_true, if_false]
    rw [tokenizeFrom_fuel a.length m' p.1 r hlen]
    rfl

def turn (m : Mode) (st : Stack) (cs : List Char) : Option (Mode × Stack × List Char × List BTok) :=
  match lexStep m cs with
  | .ok (m', ev) rest =>
    match applyEv st ev with
    | some (st', ts) => some (m', st', rest, ts)
    | none => none
  | _ => none

theorem turn_eq_some {m m' : Mode} {st st' : Stack} {a r : List Char} {ts : List BTok} :
    turn m st a = some (m', st', r, ts) ↔ ∃ ev, lexStep m a = .ok (m', ev) r ∧ applyEv st ev = some (st', ts) := by
  constructor
  · intro h
    unfold turn at h
    split at h
    · split at h
      · cases h
        exact ⟨_, by assumption, by assumption⟩
      · cases h
    · cases h
  · intro ⟨ev, hl, ha⟩
    simp only [turn, hl, ha]

theorem turn_some {m m' : Mode} {st st' : Stack} {a r : List Char} {ts : List BTok} (h : turn m st a = some (m', st', r, ts)) :
    r.length < a.length ∧ ts.length ≤ 2 ∧ ∀ b, turn m st (a ++ b) = some (m', st', r ++ b, ts) := by
  obtain ⟨ev, hl, ha⟩ := turn_eq_some.mp h
  obtain ⟨hlen, hst⟩ := good1_lexStep m a _ _ hl
  exact ⟨hlen, applyEv_le2 ha, fun b => turn_eq_some.mpr ⟨ev, hst b, ha⟩⟩

theorem tokenizeFrom_turn {m m' : Mode} {st st' : Stack} {a r : List Char} {ts : List BTok}
    (h : turn m st a = some (m', st', r, ts)) : tokenizeFrom m st a = (tokenizeFrom m' st' r).pre ts := by
  obtain ⟨ev, hl, ha⟩ := turn_eq_some.mp h
  rw [tokenizeFrom_step hl, ha]

theorem tokenizeFrom_nil (st : Stack) : tokenizeFrom .content st [] = ⟨[], endStop st, false⟩ := by
  simp [tokenizeFrom, tokF]

theorem endStop_ne_fuel (st : Stack) : endStop st ≠ .fuel := by
  unfold endStop
  split <;> simp

theorem tokenizeFrom_halt {m : Mode} {st : Stack} {cs : List Char} (h : turn m st cs = none) :
    (∃ s, s ≠ .fuel ∧ tokenizeFrom m st cs = ⟨[], s, false⟩) ∨
      (∃ t s, cs ≠ [] ∧ s ≠ .fuel ∧ tokenizeFrom m st cs = ⟨[.text t], s, true⟩) := by
  unfold tokenizeFrom
  simp only [tokF]
  split
  · exact Or.inl ⟨_, endStop_ne_fuel st, rfl⟩
  · cases hl : lexStep m cs with
    | ok v rest =>
      obtain ⟨m', ev⟩ := v
      cases ha : applyEv st ev with
      | none => exact Or.inl ⟨.syntax, by simp, by simp only [ha]⟩
      | some p => rw [turn_eq_some.mpr ⟨ev, hl, ha⟩] at h; cases h
    | okEof v =>
      obtain ⟨hne, t, ht⟩ := lexStep_okEof hl
      exact Or.inr ⟨String.ofList t, endStop st, hne, endStop_ne_fuel st, by simp only [ht, applyEv_text]⟩
    | eof | err | unsup w => exact Or.inl ⟨_, by simp, rfl⟩

theorem tokenizeFrom_induct {P : List Char → Result → Prop}
    (outcome : ∀ cs s, s ≠ .fuel → P cs ⟨[], s, false⟩)
    (text : ∀ cs t s, cs ≠ [] → s ≠ .fuel → P cs ⟨[.text t], s, true⟩)
    (step : ∀ cs rest ts r, rest.length < cs.length → ts.length ≤ 2 → P rest r → P cs (r.pre ts))
    (m : Mode) (st : Stack) (cs : List Char) : P cs (tokenizeFrom m st cs) := by
  cases ht : turn m st cs with
  | some p =>
    obtain ⟨m', st', rest, ts⟩ := p
    have hlen := (turn_some ht).1
    rw [tokenizeFrom_turn ht]
    exact step cs rest ts _ hlen (turn_some ht).2.1 (tokenizeFrom_induct outcome text step m' st' rest)
  | none =>
    rcases tokenizeFrom_halt ht with ⟨s, hs, e⟩ | ⟨t, s, hne, hs, e⟩
    · rw [e]; exact outcome cs s hs
    · rw [e]; exact text cs t s hne hs
termination_by cs.length

theorem tokenize_no_fuel (m : Mode) (st : Stack) (cs : List Char) : (tokenizeFrom m st cs).stop ≠ .fuel :=
  tokenizeFrom_induct (P := fun _ r => r.stop ≠ .fuel) (fun _ _ h => h) (fun _ _ _ _ h => h) (fun _ _ _ _ _ _ h => h) m st cs

theorem tokenizeFrom_bound (m : Mode) (st : Stack) (cs : List Char) : (tokenizeFrom m st cs).toks.length ≤ 2 * cs.length := by
  refine tokenizeFrom_induct (P := fun cs r => r.toks.length ≤ 2 * cs.length) ?_ ?_ ?_ m st cs
  · intro cs s _
    exact Nat.zero_le _
  · intro cs t s hne _
    have := List.length_pos_iff.mpr hne
    simp only [List.length_singleton]
    omega
  · intro cs rest ts r hlen hts ih
    simp only [Result.pre, List.length_append]
    omega

theorem toks_ne_nil_of_cut (m : Mode) (st : Stack) (cs : List Char) :
    (tokenizeFrom m st cs).cut = true → (tokenizeFrom m st cs).toks ≠ [] := by
  refine tokenizeFrom_induct (P := fun _ r => r.cut = true → r.toks ≠ []) ?_ ?_ ?_ m st cs
  · intro _ _ _ h
    simp at h
  · intro _ _ _ _ _ _
    simp
  · intro _ _ ts r _ _ ih h
    simp only [Result.pre, ne_eq, List.append_eq_nil_iff, not_and]
    exact fun _ => ih h

theorem pre_pre (a b : List BTok) (r : Result) : (r.pre b).pre a = r.pre (a ++ b) := by
  simp [Result.pre]

theorem pre_nil (r : Result) : r.pre [] = r := by
  simp [Result.pre]

theorem complete_prefix (r : Result) : r.complete <+: r.toks := by
  unfold Result.complete
  split
  · exact List.dropLast_prefix _
  · exact List.prefix_refl _

/-- about results of the loop only: one marked `cut` has a last token of its own to drop (`toks_ne_nil_of_cut`) -/
theorem complete_pre (ts : List BTok) (m : Mode) (st : Stack) (cs : List Char) :
    ((tokenizeFrom m st cs).pre ts).complete = ts ++ (tokenizeFrom m st cs).complete := by
  unfold Result.complete Result.pre
  simp only
  split
  · rename_i hc
    rw [List.dropLast_append_of_ne_nil (toks_ne_nil_of_cut m st cs hc)]
  · rfl

theorem complete_halt {m : Mode} {st : Stack} {cs : List Char} (h : turn m st cs = none) : (tokenizeFrom m st cs).complete = [] := by
  rcases tokenizeFrom_halt h with ⟨s, _, e⟩ | ⟨t, s, _, _, e⟩
  · rw [e]; rfl
  · rw [e]; rfl

theorem drain_succ (f : Nat) (d : Dec) :
    drain (f + 1) d =
      match turn d.mode d.stack d.buf with
      | some (m', st', rest, ts) => drain f ⟨m', st', rest, d.out ++ ts⟩
      | none => d := by
  simp only [drain, turn]
  cases lexStep d.mode d.buf with
  | ok v rest =>
    obtain ⟨m', ev⟩ := v
    simp only
    cases applyEv d.stack ev <;> rfl
  | _ => rfl

/-- what a decoder state means: the result of the whole run, given the input still to come -/
def sem (d : Dec) (future : List Char) : Result := (tokenizeFrom d.mode d.stack (d.buf ++ future)).pre d.out

theorem drain_sem : ∀ (f : Nat) (d : Dec) (future : List Char), sem (drain f d) future = sem d future := by
  intro f
  induction f with
  | zero => intro d future; rfl
  | succ f ih =>
    intro d future
    rw [drain_succ]
    cases ht : turn d.mode d.stack d.buf with
    | none => rfl
    | some p =>
      obtain ⟨m', st', rest, ts⟩ := p
      simp only
      rw [ih]
      simp only [sem]
      rw [tokenizeFrom_turn ((turn_some ht).2.2 future), pre_pre]

theorem feed_sem (d : Dec) (chunk future : List Char) : sem (feed d chunk) future = sem d (chunk ++ future) := by
  unfold feed
  rw [drain_sem]
  simp [sem, List.append_assoc]

theorem feedAll_sem : ∀ (chunks : List (List Char)) (d : Dec) (future : List Char),
    sem (chunks.foldl feed d) future = sem d (chunks.flatten ++ future) := by
  intro chunks
  induction chunks with
  | nil => intro d future; simp
  | cons c cs ih =>
    intro d future
    simp only [List.foldl_cons, List.flatten_cons, List.append_assoc]
    rw [ih, feed_sem]

theorem finish_eq_sem (d : Dec) : finish d = sem d [] := by simp [finish, sem]

theorem drain_halt : ∀ (f : Nat) (d : Dec), d.buf.length ≤ f →
    turn (drain f d).mode (drain f d).stack (drain f d).buf = none := by
  intro f
  induction f with
  | zero =>
    intro d h
    cases ht : turn d.mode d.stack d.buf with
    | none => exact ht
    | some p => have := (turn_some ht).1; omega
  | succ f ih =>
    intro d h
    rw [drain_succ]
    cases ht : turn d.mode d.stack d.buf with
    | none => exact ht
    | some p =>
      have := (turn_some ht).1
      exact ih _ (by simp only; omega)

theorem drain_out (f : Nat) (d : Dec) (h : d.buf.length ≤ f) :
    (drain f d).out = d.out ++ (tokenizeFrom d.mode d.stack d.buf).complete := by
  have hs := congrArg Result.complete (drain_sem f d [])
  simp only [sem, List.append_nil] at hs
  rw [complete_pre, complete_pre, complete_halt (drain_halt f d h), List.append_nil] at hs
  exact hs

/-- prefix monotonicity: the decoder that has drained `a` goes on from there when `b` arrives -/
theorem complete_mono (m : Mode) (st : Stack) (a b : List Char) :
    (tokenizeFrom m st a).complete <+: (tokenizeFrom m st (a ++ b)).complete := by
  have hs := congrArg Result.complete (drain_sem a.length ⟨m, st, a, []⟩ b)
  simp only [sem] at hs
  rw [complete_pre, complete_pre, drain_out a.length ⟨m, st, a, []⟩ (Nat.le_refl _)] at hs
  exact ⟨_, by simpa using hs⟩

theorem drain_out_mono : ∀ (f : Nat) (d : Dec), ∃ ts, (drain f d).out = d.out ++ ts := by
  intro f
  induction f with
  | zero => intro d; exact ⟨[], by simp [drain]⟩
  | succ f ih =>
    intro d
    rw [drain_succ]
    cases turn d.mode d.stack d.buf with
    | none => exact ⟨[], by simp⟩
    | some p =>
      obtain ⟨us, hu⟩ := ih ⟨p.1, p.2.1, p.2.2.1, d.out ++ p.2.2.2⟩
      exact ⟨p.2.2.2 ++ us, by rw [hu, List.append_assoc]⟩

end XmppVerif.Proofs.C02Bytes
