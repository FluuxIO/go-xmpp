import XmppVerif.Proofs.C01Attr
/- What the decoder sees of an element the encoders write, and the child loop `foldKids` of the hand-written
UnmarshalXML methods: the list of children is cut into the pieces the fields wrote. -/
namespace XmppVerif.Proofs.C01
open XmppVerif.Model.C01 XmppVerif.Spec.C01 XmppVerif.Props.C01

/-- `ha`: the attributes are read as written (`viewAttrs_mkAttrs`, `viewAttrs_plain`; `rfl` for none). -/
theorem view_unqual (ctx loc : Str) (a : List Attr) (ks : List El) (ha : viewAttrs a [] = a) :
    view ctx (.elem ⟨[], loc⟩ a ks) = .elem ⟨ctx, loc⟩ a (viewL ctx ks) := by
  rw [view_elem, ha]
  rfl

theorem view_qual (ctx sp loc : Str) (a : List Attr) (ks : List El) (hsp : sp ≠ []) (hl : legal sp = true)
    (ha : viewAttrs a [] = a) :
    view ctx (.elem ⟨sp, loc⟩ a ks) = .elem ⟨sp, loc⟩ (⟨⟨[], xmlnsL⟩, sp⟩ :: a) (viewL sp ks) := by
  have hns : nsOf ctx ⟨sp, loc⟩ = sp := by simp [nsOf, hsp, sanitize_legal sp hl]
  rw [view_elem, ha, hns]
  simp [hsp, sanitize_legal sp hl]

theorem foldKids_nil {α : Type} (f : α → El → Option α) (a : α) : foldKids f a [] = some a := rfl

theorem foldKids_one {α : Type} (f : α → El → Option α) (a : α) (k : El) : foldKids f a [k] = f a k := by
  simp only [foldKids]
  cases f a k <;> rfl

theorem foldKids_append {α : Type} (f : α → El → Option α) (a : α) (l1 l2 : List El) :
    foldKids f a (l1 ++ l2) = (foldKids f a l1).bind fun a' => foldKids f a' l2 := by
  induction l1 generalizing a with
  | nil => simp [foldKids]
  | cons k ks ih =>
    simp only [List.cons_append, foldKids]
    cases f a k with
    | none => simp
    | some a' => simpa using ih a'

/-- A child written or omitted as a whole. An omitted field is at its zero value, which the value under construction
already has: both cases end in the same value. -/
theorem foldKids_opt {α : Type} (f : α → El → Option α) (c : Prop) [Decidable c] (k : El) (a a' : α)
    (h0 : c → a = a') (h1 : ¬c → f a k = some a') : foldKids f a (if c then [] else [k]) = some a' := by
  split
  · rename_i hc; rw [h0 hc]; rfl
  · rename_i hc; rw [foldKids_one, h1 hc]

/-- `foldKids_opt` for a loop that cannot fail (`Err.UnmarshalXML` runs over the children with `foldl`) -/
theorem foldl_opt {α : Type} (g : α → El → α) (c : Prop) [Decidable c] (k : El) (a a' : α)
    (h0 : c → a = a') (h1 : ¬c → g a k = a') : (if c then [] else [k]).foldl g a = a' := by
  split
  · rename_i hc
    rw [h0 hc]
    rfl
  · rename_i hc
    rw [List.foldl_cons, List.foldl_nil, h1 hc]

theorem foldKids_flatMap {α β : Type} (f : α → El → Option α) (enc : β → List El) (st : List β → α) :
    ∀ (xs pre : List β), (∀ x ∈ xs, ∀ pre, foldKids f (st pre) (enc x) = some (st (pre ++ [x]))) →
      foldKids f (st pre) (xs.flatMap enc) = some (st (pre ++ xs))
  | [], pre, _ => by rw [List.flatMap_nil, List.append_nil, foldKids_nil]
  | x :: xs, pre, h => by
    rw [List.flatMap_cons, foldKids_append, h x List.mem_cons_self, Option.bind_some,
      foldKids_flatMap f enc st xs _ (fun y hy => h y (List.mem_cons_of_mem _ hy)), List.append_assoc,
      List.singleton_append]

theorem view_textElem (ctx name s : Str) (hs : legal s = true) :
    view ctx (.elem ⟨[], name⟩ [] [.text true s]) = .elem ⟨ctx, name⟩ [] [.text true s] := by
  rw [view_unqual ctx name [] _ rfl]
  simp [viewL, view, sanitize_legal s hs]

theorem foldKids_textElem {α : Type} (f : α → El → Option α) (ctx name : Str) (c : Prop) [Decidable c] (s : Str)
    (hs : legal s = true) (a a' : α) (h0 : c → a = a')
    (h1 : ¬c → f a (.elem ⟨ctx, name⟩ [] [.text true s]) = some a') :
    foldKids f a (viewL ctx (if c then [] else [.elem ⟨[], name⟩ [] [.text true s]])) = some a' := by
  rw [viewL_opt, view_textElem ctx name s hs]
  exact foldKids_opt f c _ a a' h0 h1

end XmppVerif.Proofs.C01
