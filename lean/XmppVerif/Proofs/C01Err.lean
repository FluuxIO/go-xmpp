import XmppVerif.Proofs.C01Flat
namespace XmppVerif.Proofs.C01
open XmppVerif.Model.C01 XmppVerif.Spec.C01 XmppVerif.Props.C01

/-- the children of <failed/> and <error/>: elements in the stanza-error namespace, without attributes -/
theorem view_stanzas_leaf (ctx : Str) (l : Str) (ks : List El) :
    view ctx (.elem ⟨nsStanzas, l⟩ [] ks) =
      .elem ⟨nsStanzas, l⟩ [⟨⟨[], xmlnsL⟩, nsStanzas⟩] (viewL nsStanzas ks) :=
  view_qual ctx nsStanzas l [] ks (by decide) (by decide) rfl

theorem smfailed_rt (ctx : Str) (v : SMFailed) (hv : v.wf = true) :
    decSMFailed (view ctx (encSMFailed v)) = some v := by
  obtain ⟨h, cond⟩ := v
  simp only [SMFailed.wf, Bool.and_eq_true, decide_eq_true_eq] at hv
  have hpo : List.all [((['h'] : Str), h.map showNat)] pairOk = true := by
    cases h <;> simp [pairOk, legal_showNat] <;> decide
  have hparse : (h.map showNat).bind parseUint64 = h := by
    cases h with
    | none => rfl
    | some n => simp [parseUint64_showNat n (hv.1 n rfl)]
  have hlook : lastAttr? ['h'] (⟨⟨[], xmlnsL⟩, nsSM⟩ :: mkAttrs [(['h'], h.map showNat)]) = h.map showNat :=
    lastAttr?_written [(['h'], h.map showNat)] rfl rfl [_] rfl _ (List.mem_singleton.mpr rfl)
  rw [encSMFailed, view_qual ctx _ _ _ _ (by decide) (by decide) (viewAttrs_mkAttrs _ [] hpo), decSMFailed]
  simp only [hlook, hparse]
  cases cond with
  | none => rfl
  | some c =>
    have hc : c ∈ smFailedConds := by simpa using hv.2 c rfl
    simp [viewL, view_stanzas_leaf, smFailedKids, hc]

theorem errKid_reason (ctx : Str) (x : Err) (r : Str) (h1 : r ≠ textL) (h2 : r ≠ goneL) :
    errKid x (view ctx (.elem ⟨nsStanzas, r⟩ [] [])) = { x with reason := r } := by
  rw [view_stanzas_leaf]
  have e1 : (⟨nsStanzas, r⟩ : Name) ≠ ⟨nsStanzas, textL⟩ := by intro e; exact h1 (congrArg Name.loc e)
  have e2 : (⟨nsStanzas, r⟩ : Name) ≠ ⟨nsStanzas, goneL⟩ := by intro e; exact h2 (congrArg Name.loc e)
  simp [errKid, decNode, e1, e2]

theorem errKid_text (ctx : Str) (x : Err) (t : Str) (ht : legal t = true) :
    errKid x (view ctx (.elem ⟨nsStanzas, textL⟩ [] [.text false t])) = { x with text := t } := by
  rw [view_stanzas_leaf]
  simp [errKid, decNode, viewL, view, contentOf, sanitize_legal t ht]

def errPairs (e : Err) : List (Str × Option Str) :=
  [(['c', 'o', 'd', 'e'], if e.code = 0 then none else some (showInt e.code)), (['t', 'y', 'p', 'e'], omitEmpty e.typ)]

theorem errElem_eq (e : Err) : errElem e = .elem ⟨[], ['e', 'r', 'r', 'o', 'r']⟩ (mkAttrs (errPairs e))
    ((if e.reason = [] then [] else [.elem ⟨nsStanzas, e.reason⟩ [] []]) ++
     (if e.text = [] then [] else [.elem ⟨nsStanzas, textL⟩ [] [.text false e.text]])) := rfl

theorem err_rt (ctx : Str) (e : Err) (hw : e.wf = true) :
    decErrOnto Err.zero (view ctx (errElem e)) = e := by
  obtain ⟨code, typ, reason, text⟩ := e
  simp only [Err.wf, Bool.and_eq_true, Bool.or_eq_true, bne_iff_ne, ne_eq] at hw
  obtain ⟨⟨⟨hcode, htyp⟩, htext⟩, hreason⟩ := hw
  have hpo : (errPairs ⟨code, typ, reason, text⟩).all pairOk = true := by
    have hc : pairOk (['c', 'o', 'd', 'e'], if code = 0 then none else some (showInt code)) = true := by
      split
      · decide
      · simp only [pairOk, legal_showInt, Bool.and_true]
        decide
    simp only [errPairs, List.all_cons, List.all_nil, hc, omitEmpty_ok ['t', 'y', 'p', 'e'] typ (by decide) htyp,
      Bool.and_self]
  -- as in `foldKids_opt`, for attributes
  have hattr : ((Err.zero.setType (omitEmpty typ)).setCode (if code = 0 then none else some (showInt code))) = ⟨code, typ, [], []⟩ := by
    have ht : Err.zero.setType (omitEmpty typ) = ⟨0, typ, [], []⟩ := by
      unfold omitEmpty; split
      · rename_i h; rw [h]; rfl
      · rfl
    rw [ht]; split
    · rename_i h; rw [h]; rfl
    · simp only [Err.setCode, parseIntBits_showInt 64 code hcode]
  have hview := viewAttrs_mkAttrs _ [] hpo
  have hlook := lastAttr?_written (errPairs ⟨code, typ, reason, text⟩) rfl rfl [] rfl
  simp only [errPairs, List.forall_mem_cons, List.nil_append] at hview hlook
  rw [errElem, view_unqual ctx _ _ _ hview, decErrOnto, hlook.1, hlook.2.1, hattr, viewL_append, List.foldl_append,
    viewL_opt, viewL_opt]
  have hr : (if reason = [] then [] else [view ctx (.elem ⟨nsStanzas, reason⟩ [] [])]).foldl errKid ⟨code, typ, [], []⟩ =
      ⟨code, typ, reason, []⟩ :=
    foldl_opt errKid _ _ _ _ (fun h => by rw [h]) fun h => by
      have hn : reason ≠ textL ∧ reason ≠ goneL := by
        rcases hreason with h' | h'
        · exact absurd (by simpa using h') h
        · exact ⟨h'.1.2, h'.2⟩
      rw [errKid_reason ctx _ reason hn.1 hn.2]
  have ht : (if text = [] then [] else [view ctx (.elem ⟨nsStanzas, textL⟩ [] [.text false text])]).foldl errKid
      ⟨code, typ, reason, []⟩ = ⟨code, typ, reason, text⟩ :=
    foldl_opt errKid _ _ _ _ (fun h => by rw [h]) fun _ => errKid_text ctx _ text htext
  rw [hr, ht]

theorem isEmpty_zero (e : Err) (h : e.isEmpty = true) : e = Err.zero := by
  obtain ⟨c, t, r, x⟩ := e
  simp only [Err.isEmpty, Bool.and_eq_true, beq_iff_eq, List.isEmpty_iff] at h
  obtain ⟨⟨⟨h1, h2⟩, h3⟩, h4⟩ := h
  subst h1 h2 h3 h4; rfl

theorem view_errElem (ctx : Str) (e : Err) : ∃ a ks, view ctx (errElem e) = .elem ⟨ctx, ['e', 'r', 'r', 'o', 'r']⟩ a ks := by
  rw [errElem, view_elem]
  exact ⟨_, _, rfl⟩

/-- For any loop that hands <error/> to `decErrOnto` on the error it has; `set` puts an error into the value under
construction. -/
theorem foldKids_encErr {α : Type} (f : α → El → Option α) (set : Err → α) (ctx : Str) (e : Err) (he : e.wf = true)
    (hf : ∀ a ks, f (set Err.zero) (.elem ⟨ctx, ['e', 'r', 'r', 'o', 'r']⟩ a ks) =
      some (set (decErrOnto Err.zero (.elem ⟨ctx, ['e', 'r', 'r', 'o', 'r']⟩ a ks)))) :
    foldKids f (set Err.zero) (viewL ctx (encErr e)) = some (set e) := by
  rw [encErr, viewL_opt]
  refine foldKids_opt f _ _ _ _ (fun h => by rw [isEmpty_zero e h]) (fun _ => ?_)
  obtain ⟨a, ks, hv⟩ := view_errElem ctx e
  rw [hv, hf, ← hv, err_rt ctx e he]

end XmppVerif.Proofs.C01
