import XmppVerif.Proofs.C01Msg
namespace XmppVerif.Proofs.C01
open XmppVerif.Model.C01 XmppVerif.Spec.C01 XmppVerif.Props.C01
open XmppVerif.Model.C01S (presKidB showL statusL priorityL errorL)

theorem presKid_elem (p : Presence) (loc : Str) (a : List Attr) (ks : List El) (ctx : Str) (hx : ctxOk ctx = true) :
    presKid p (.elem ⟨ctx, loc⟩ a ks) =
      if loc = ['s', 'h', 'o', 'w'] then some { p with show_ := contentOf ks }
      else if loc = ['s', 't', 'a', 't', 'u', 's'] then some { p with status := contentOf ks }
      else if loc = ['p', 'r', 'i', 'o', 'r', 'i', 't', 'y'] then
        (if contentOf ks = [] then some { p with priority := 0 }
         else (parseIntBits 8 (trimSpace (contentOf ks))).map fun i => { p with priority := i })
      else if loc = ['e', 'r', 'r', 'o', 'r'] then some { p with error := decErrOnto p.error (.elem ⟨ctx, loc⟩ a ks) }
      else none := by
  rw [presKid, if_neg (by simpa [ctxOk] using hx)]

/-- `msg_own_kids` for Presence: show, status, priority (an int8 in decimal), error; the switch is `presKidB` -/
theorem pres_own_kids {α : Type} (f : α → El → Option α) (lift : Presence → α) (ctx : Str)
    (hf : ∀ (p : Presence) (loc : Str) (a : List Attr) (ks : List El), loc ∈ [showL, statusL, priorityL, errorL] →
      f (lift p) (.elem ⟨ctx, loc⟩ a ks) = (presKidB p (.elem ⟨ctx, loc⟩ a ks)).map lift)
    (p : Presence) (hw : p.wf = true) :
    foldKids f (lift ⟨p.attrs, [], [], 0, Err.zero⟩)
      (viewL ctx (optText showL p.show_ ++ optText statusL p.status ++
        (if p.priority = 0 then [] else [.elem ⟨[], priorityL⟩ [] [.text true (showInt p.priority)]]) ++
        encErr p.error)) = some (lift p) := by
  obtain ⟨a, s, t, i, e⟩ := p
  simp only [Presence.wf, Bool.and_eq_true] at hw
  obtain ⟨⟨⟨⟨-, hs⟩, ht⟩, hi⟩, he⟩ := hw
  have k4 := foldKids_encErr f (fun x => lift ⟨a, s, t, i, x⟩) ctx e he (fun _ _ => hf _ errorL _ _ (by decide))
  simp only [optText]
  rw [viewL_append, viewL_append, viewL_append, foldKids_append, foldKids_append, foldKids_append,
    foldKids_textElem f ctx _ _ s hs _ (lift ⟨a, s, [], 0, Err.zero⟩) (fun h => by rw [h])
      (fun _ => by rw [hf _ showL _ _ (by decide)]; simp [presKidB, contentOf]),
    Option.bind_some,
    foldKids_textElem f ctx _ _ t ht _ (lift ⟨a, s, t, 0, Err.zero⟩) (fun h => by rw [h])
      (fun _ => by rw [hf _ statusL _ _ (by decide)]; simp [presKidB, contentOf, statusL, showL]),
    Option.bind_some,
    foldKids_textElem f ctx _ _ _ (legal_showInt i) _ (lift ⟨a, s, t, i, Err.zero⟩) (fun h => by rw [h])
      (fun _ => by
        rw [hf _ priorityL _ _ (by decide)]
        simp [presKidB, priorityL, showL, statusL, contentOf, showInt_ne_nil, trimSpace_id _ (showInt_noSpace i),
          parseIntBits_showInt 8 i hi]),
    Option.bind_some, k4]

theorem pres_rt (ctx : Str) (p : Presence) (hctx : ctxOk ctx = true) (hw : p.wf = true) :
    decPresence (view ctx (encPresence p)) = some p := by
  have ha : p.attrs.wf = true := by
    simp only [Presence.wf, Bool.and_eq_true] at hw
    exact hw.1.1.1.1
  rw [encPresence, view_unqual ctx _ _ _ (attrs_view p.attrs ha), decPresence, decAttrs_encAttrs]
  refine pres_own_kids presKid (fun p => p) ctx (fun p loc a ks hl => ?_) p hw
  rw [presKid_elem _ _ _ _ ctx hctx]
  simp only [List.mem_cons, List.not_mem_nil, or_false] at hl
  rcases hl with rfl | rfl | rfl | rfl <;> simp [presKidB, showL, statusL, priorityL, errorL]

end XmppVerif.Proofs.C01
