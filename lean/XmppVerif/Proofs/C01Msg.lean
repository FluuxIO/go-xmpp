import XmppVerif.Proofs.C01Err
import XmppVerif.Model.C01Compose
namespace XmppVerif.Proofs.C01
open XmppVerif.Model.C01 XmppVerif.Spec.C01 XmppVerif.Props.C01
open XmppVerif.Model.C01S (msgKidB subjectL bodyL threadL errorL)

/-- `ctxOk` with the comparison made between strings, as the registry holds them: the kernel compares two string
literals cheaply, but takes one apart into its characters at quadratic cost -/
theorem ctxOk_iff (ctx : String) : ctxOk ctx.toList = (registeredMsg ++ registeredPres).all fun p => p.1 != ctx := by
  simp only [ctxOk, extSpaces, List.contains_eq_any_beq, List.any_map, List.not_any_eq_all_not]
  refine List.all_congr rfl fun p => congrArg (!·) ?_
  rw [Function.comp_apply, Bool.eq_iff_iff, beq_iff_eq, beq_iff_eq, String.toList_inj, eq_comm]

theorem msgKid_elem (m : Message) (loc : Str) (a : List Attr) (ks : List El) (ctx : Str) (hx : ctxOk ctx = true) :
    msgKid m (.elem ⟨ctx, loc⟩ a ks) =
      if loc = ['b', 'o', 'd', 'y'] then some { m with body := contentOf ks }
      else if loc = ['t', 'h', 'r', 'e', 'a', 'd'] then some { m with thread := contentOf ks }
      else if loc = ['s', 'u', 'b', 'j', 'e', 'c', 't'] then some { m with subject := contentOf ks }
      else if loc = ['e', 'r', 'r', 'o', 'r'] then some { m with error := decErrOnto m.error (.elem ⟨ctx, loc⟩ a ks) }
      else none := by
  rw [msgKid, if_neg (by simpa [ctxOk] using hx)]

/-- The children a Message writes for its own fields, read by ANY loop `f` that runs the switch of Message.UnmarshalXML
(`msgKidB`) on the four labels in the stanza's namespace (`lift` puts a Message into the loop's state). The plain loop
and the loop that asks the registry first both qualify. -/
theorem msg_own_kids {α : Type} (f : α → El → Option α) (lift : Message → α) (ctx : Str)
    (hf : ∀ (m : Message) (loc : Str) (a : List Attr) (ks : List El), loc ∈ [subjectL, bodyL, threadL, errorL] →
      f (lift m) (.elem ⟨ctx, loc⟩ a ks) = some (lift (msgKidB m (.elem ⟨ctx, loc⟩ a ks))))
    (m : Message) (hw : m.wf = true) :
    foldKids f (lift ⟨m.attrs, [], [], [], Err.zero⟩)
      (viewL ctx (optText subjectL m.subject ++ optText bodyL m.body ++ optText threadL m.thread ++ encErr m.error)) =
      some (lift m) := by
  obtain ⟨a, s, b, t, e⟩ := m
  simp only [Message.wf, Bool.and_eq_true] at hw
  obtain ⟨⟨⟨⟨-, hs⟩, hb⟩, ht⟩, he⟩ := hw
  have k4 := foldKids_encErr f (fun x => lift ⟨a, s, b, t, x⟩) ctx e he (fun _ _ => hf _ errorL _ _ (by decide))
  simp only [optText]
  rw [viewL_append, viewL_append, viewL_append, foldKids_append, foldKids_append, foldKids_append,
    foldKids_textElem f ctx _ _ s hs _ (lift ⟨a, s, [], [], Err.zero⟩) (fun h => by rw [h])
      (fun _ => by rw [hf _ subjectL _ _ (by decide)]; simp [msgKidB, contentOf, subjectL, bodyL, threadL]),
    Option.bind_some,
    foldKids_textElem f ctx _ _ b hb _ (lift ⟨a, s, b, [], Err.zero⟩) (fun h => by rw [h])
      (fun _ => by rw [hf _ bodyL _ _ (by decide)]; simp [msgKidB, contentOf]),
    Option.bind_some,
    foldKids_textElem f ctx _ _ t ht _ (lift ⟨a, s, b, t, Err.zero⟩) (fun h => by rw [h])
      (fun _ => by rw [hf _ threadL _ _ (by decide)]; simp [msgKidB, contentOf, bodyL, threadL]),
    Option.bind_some, k4]

theorem msg_rt (ctx : Str) (m : Message) (hctx : ctxOk ctx = true) (hw : m.wf = true) :
    decMessage (view ctx (encMessage m)) = some m := by
  have ha : m.attrs.wf = true := by
    simp only [Message.wf, Bool.and_eq_true] at hw
    exact hw.1.1.1.1
  rw [encMessage, view_unqual ctx _ _ _ (attrs_view m.attrs ha), decMessage, decAttrs_encAttrs]
  refine msg_own_kids msgKid (fun m => m) ctx (fun m loc a ks hl => ?_) m hw
  rw [msgKid_elem _ _ _ _ ctx hctx]
  simp only [List.mem_cons, List.not_mem_nil, or_false] at hl
  rcases hl with rfl | rfl | rfl | rfl <;> simp [msgKidB, subjectL, bodyL, threadL, errorL]

end XmppVerif.Proofs.C01
