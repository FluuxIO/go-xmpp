import XmppVerif.Proofs.C01SchemaField
/- All fields of a struct; a struct given its fields. -/
namespace XmppVerif.Proofs.C01S
open XmppVerif.Model.C01
open XmppVerif.Model.C01S XmppVerif.Spec.C01 XmppVerif.Props.C01 XmppVerif.Proofs.C01

def AllFieldsOK (pns : Bool) : List Hdr → List Ty → Prop
  | h :: hs, t :: ts => (h.mode = .elem → FieldOK pns h t) ∧ (h.mode = .any → t = .ptr .node) ∧ AllFieldsOK pns hs ts
  | _, _ => True

theorem encKids_cons (ps : Str) (h : Hdr) (hs : List Hdr) (t : Ty) (ts : List Ty) (v : Val) (vs : List Val) :
    encKids ps (h :: hs) (t :: ts) (v :: vs) = fieldKids ps h t v ++ encKids ps hs ts vs := rfl

theorem hdrOk_mode (h : Hdr) (hk : hdrOk h = true) : h.mode = .attr ∨ h.mode = .elem ∨ h.mode = .any := by
  cases hm : h.mode <;> simp [hdrOk, hm] at hk <;> simp

theorem not_takes_attr (h : Hdr) (hm : h.mode = .attr) (n : Name) : hdrTakes h n = false := by
  simp [hdrTakes, hm]

theorem elemNames_cons (h : Hdr) (hs : List Hdr) :
    elemNames (h :: hs) = (if h.mode = .elem ∨ h.mode = .any then [h.name.loc] else []) ++ elemNames hs := rfl

theorem elemNames_append (a b : List Hdr) : elemNames (a ++ b) = elemNames a ++ elemNames b := by
  induction a with
  | nil => simp [elemNames]
  | cons x xs ih => simp [elemNames_cons, ih]

theorem mem_elemNames (h : Hdr) (hs : List Hdr) (hm : h ∈ hs) (he : h.mode = .elem ∨ h.mode = .any) :
    h.name.loc ∈ elemNames hs := by
  induction hs with
  | nil => simp at hm
  | cons x xs ih =>
    rw [elemNames_cons]
    rcases List.mem_cons.mp hm with e | e
    · subst e; simp [he]
    · simp [ih e]

theorem not_takes_of_ne (h : Hdr) (loc sp : Str) (hne : h.mode = .elem ∨ h.mode = .any → h.name.loc ≠ loc) :
    hdrTakes h ⟨sp, loc⟩ = false := by
  by_cases hm : h.mode = .elem ∨ h.mode = .any
  · simp [hdrTakes, hne hm]
  · have h1 : ¬ h.mode = .elem := fun e => hm (Or.inl e)
    have h2 : ¬ h.mode = .any := fun e => hm (Or.inr e)
    simp [hdrTakes, h1, h2]

theorem not_takes_of_not_mem (L : List Hdr) (loc : Str) (h : (elemNames L).contains loc = false) :
    ∀ h' ∈ L, ∀ sp, hdrTakes h' ⟨sp, loc⟩ = false := by
  intro h' hh sp
  refine not_takes_of_ne h' loc sp fun hm e => ?_
  have hc : (elemNames L).contains loc = true := by simpa [← e] using mem_elemNames h' L hh hm
  rw [hc] at h; cases h

theorem anyCount_append (a b : List Hdr) : anyCount (a ++ b) = anyCount a + anyCount b := by
  induction a with
  | nil => simp [anyCount]
  | cons x xs ih => simp [anyCount, ih]; omega

theorem anyCount_zero (a : List Hdr) (h : anyCount a = 0) : ∀ h' ∈ a, h'.mode ≠ .any := by
  induction a with
  | nil => simp
  | cons x xs ih =>
    intro h' hh
    simp only [anyCount] at h
    rcases List.mem_cons.mp hh with e | e
    · subst e; intro hm; simp [hm] at h
    · exact ih (by omega) h' e

/-- `hd`, `hno`: an earlier field must not take the child a later field wrote, so the element names are distinct and the
fields in front (`hp`) take none of them; `tk` is the list of names some field takes, which a `,any` payload must avoid. -/
theorem fields_fold (pns : Bool) (ctx ps : Str) (hps : pns = true → ps ≠ []) (tk : List Str) :
    ∀ (hs : List Hdr) (ts : List Ty) (vs : List Val) (hp : List Hdr) (tp : List Ty) (pv : List Val),
      hp.length = tp.length → hp.length = pv.length → hs.all hdrOk = true → AllFieldsOK pns hs ts →
      Val.fitsFields tk hs ts vs = true → distinct (elemNames hs) = true →
      (∀ h ∈ hs, (h.mode = .elem ∨ h.mode = .any) → noneTakes hp h.name.loc) →
      tk = elemNames (hp ++ hs) → anyCount (hp ++ hs) ≤ 1 →
      foldKids (decKid (hp ++ hs) (tp ++ ts)) (pv ++ attrPart hs ts vs) (viewSL ctx (encKids ps hs ts vs)) =
        some (pv ++ vs) := by
  intro hs ts vs hp tp pv h1 h2 hok hall hf hd hno htk hac
  induction hs, ts, vs, hf using fitsFields_induction generalizing hp tp pv with
  | nil => simp [encKids, viewSL, foldKids_nil, attrPart]
  | cons h hs t ts v vs hf1 hf2 _ ih =>
    simp only [List.all_cons, Bool.and_eq_true] at hok
    have hd' : distinct (elemNames hs) = true := by
      rw [elemNames_cons] at hd
      by_cases hm : h.mode = .elem ∨ h.mode = .any
      · simp only [hm, if_true, List.singleton_append, distinct, Bool.and_eq_true] at hd; exact hd.2
      · simpa [hm] using hd
    have hno' : ∀ h2 ∈ hs, (h2.mode = .elem ∨ h2.mode = .any) → noneTakes (hp ++ [h]) h2.name.loc := by
      intro h2 hm2 he2 h' hh' sp
      rcases List.mem_append.mp hh' with e | e
      · exact hno h2 (by simp [hm2]) he2 h' e sp
      · have e' : h' = h := by simpa using e
        subst e'
        refine not_takes_of_ne h' _ sp fun hm e2 => ?_
        rw [elemNames_cons] at hd
        simp only [hm, if_true, List.singleton_append, distinct, Bool.and_eq_true, Bool.not_eq_true'] at hd
        have hc : (elemNames hs).contains h'.name.loc = true := by simpa [e2] using mem_elemNames h2 hs hm2 he2
        rw [hc] at hd; exact absurd hd.1 (by simp)
    have ih := ih (hp ++ [h]) (tp ++ [t]) (pv ++ [v]) (by simp [h1]) (by simp [h2]) hok.2 hall.2.2 hd' hno'
      (by simpa using htk) (by simpa using hac)
    simp only [List.append_assoc, List.singleton_append] at ih
    rw [encKids_cons, viewSL_append, foldKids_append, attrPart]
    rcases hdrOk_mode h hok.1 with hm | hm | hm
    · have : fieldKids ps h t v = [] := by simp [fieldKids, hm]
      rw [this]
      simp only [viewSL, foldKids_nil, hm, if_true, Option.bind_some]
      exact ih
    · have hna : ¬ h.mode = .attr := by rw [hm]; simp
      have hfo := hall.1 hm ctx ps v hp hs tp ts pv (attrPart hs ts vs) hps h1 h2 (hno h (by simp) (Or.inl hm))
        (by simpa [hm] using hf1)
      rw [if_neg hna, hfo, Option.bind_some]
      exact ih
    · have hna : ¬ h.mode = .attr := by rw [hm]; simp
      have ht : t = .ptr .node := hall.2.1 hm
      subst ht
      have hnoany : ∀ h' ∈ hp, h'.mode ≠ .any := by
        rw [anyCount_append] at hac
        simp only [anyCount, hm, if_true] at hac
        exact anyCount_zero hp (by omega)
      have hfa := field_any ctx ps h hm v hp hs tp ts pv (attrPart hs ts vs) h1 h2 hnoany tk
        (fun loc hl => not_takes_of_not_mem _ loc (by rw [← htk]; exact hl)) (by simpa [hm] using hf1)
      rw [if_neg hna, zero_ptr, hfa, Option.bind_some]
      exact ih

theorem prim_rt (k : Prim) (fn : Name) (pns : Bool) (hleg : legal fn.space = true) (hne : fn.loc ≠ []) :
    RtE (.prim k) fn pns := by
  intro ctx ps om v _ hf
  have hp : primFits k v = true := hf
  refine ⟨fn, [], txt true (primText v), ?_, rfl, ?_, ?_⟩
  · rw [encD_prim, if_pos hne]
  · by_cases hz : fn.space = []
    · exact Or.inl hz
    · exact Or.inr (nsOfS_own ctx fn [] hz hleg)
  · rw [viewS_elem]
    rw [decInto_prim, viewSL_txt _ _ _ (legal_primText k v hp), contentOf_txt, copyValue_primText k v hp]

theorem innerVal_nil : ∀ (hs : List Hdr) (vs : List Val), hs.all hdrOk = true → innerVal hs vs = []
  | [], _, _ => by simp [innerVal]
  | _ :: _, [], _ => by simp [innerVal]
  | h :: hs, v :: vs, hok => by
    simp only [List.all_cons, Bool.and_eq_true] at hok
    have hm : ¬ h.mode = .innerxml := by
      rcases hdrOk_mode h hok.1 with e | e | e <;> rw [e] <;> simp
    simp [innerVal, hm, innerVal_nil hs vs hok.2]

/-- no field of a struct with `hdrOk` headers is `,innerxml`: the element holds attributes and children only -/
theorem encD_struct_ok (ps : Str) (fn : Name) (om : Bool) (tn : Str) (xn : XN) (hs : List Hdr) (ts : List Ty) (dn : Name)
    (vs : List Val) (hok : hs.all hdrOk = true) :
    encD ps fn om (.struct tn xn hs ts) (.struct dn vs) =
      [.elem (startName tn xn dn fn) (mkAttrs (attrPairs hs ts vs) ++ emptyNsAttr xn (startName tn xn dn fn) ps)
        (encKids (startName tn xn dn fn).space hs ts vs)] := by
  rw [encD_struct, innerVal_nil hs vs hok]
  simp

theorem hasMode_innerxml (hs : List Hdr) (hok : hs.all hdrOk = true) : hasMode .innerxml hs = false := by
  simp only [hasMode, List.any_eq_false, beq_iff_eq]
  intro h hh e
  rcases hdrOk_mode h (List.all_eq_true.mp hok h hh) with e' | e' | e' <;> rw [e'] at e <;> cases e

theorem attrPairs_ok (pns : Bool) (tk : List Str) (hs : List Hdr) (ts : List Ty) (vs : List Val)
    (hok : hs.all hdrOk = true) (hwf : Ty.wfFields pns hs ts = true) (hf : Val.fitsFields tk hs ts vs = true) :
    (attrPairs hs ts vs).all pairOk = true := by
  induction hs, ts, vs, hf using fitsFields_induction with
  | nil => rfl
  | cons h hs t ts v vs hf1 _ _ ih =>
    simp only [List.all_cons, Bool.and_eq_true] at hok
    rw [wfFields_cons, Bool.and_eq_true] at hwf
    have ih := ih hok.2 hwf.2
    rw [attrPairs_cons]
    by_cases hm : h.mode = .attr
    · have hk : keyOk h.name.loc = true := by
        have := hok.1; simp only [hdrOk, hm, Bool.and_eq_true] at this; exact this.2
      have hty : attrTyOk t = true := by simpa [hm] using hwf.1
      have haf := attr_field h t v hty (by simpa [hm] using hf1)
      simp only [hm, if_true, List.singleton_append, List.all_cons, ih, Bool.and_true, pairOk, hk, Bool.true_and]
      cases ho : attrOut h t v with
      | none => rfl
      | some s => rw [ho] at haf; exact haf.1
    · simpa [hm] using ih

theorem attrPairs_keysOk : ∀ (hs : List Hdr) (ts : List Ty) (vs : List Val), hs.all hdrOk = true →
    ((attrPairs hs ts vs).map (·.1)).all keyOk = true
  | [], _, _, _ => rfl
  | _ :: _, [], _, _ => rfl
  | _ :: _, _ :: _, [], _ => rfl
  | h :: hs, t :: ts, v :: vs, hok => by
    simp only [List.all_cons, Bool.and_eq_true] at hok
    have ih := attrPairs_keysOk hs ts vs hok.2
    rw [attrPairs_cons]
    by_cases hm : h.mode = .attr
    · have hk : keyOk h.name.loc = true := by
        have := hok.1; simp only [hdrOk, hm, Bool.and_eq_true] at this; exact this.2
      simp [hm, hk, ih]
    · simpa [hm] using ih

/-- The start element of a struct written for the field `fn` with the attributes `pairs`, as the decoder sees it. With a
dynamic XMLName the printer adds `xmlns=""` under a parent with a namespace, which makes the viewed namespace empty.
`tail`: the namespace declarations the decoder reports as attributes; no field reads them. -/
theorem struct_start (tn : Str) (xn : XN) (fn : Name) (pns : Bool) (hne : fn.loc ≠ []) (hxn : xnOk fn pns xn = true)
    (ctx ps : Str) (hps : pns = true → ps ≠ []) (pairs : List (Str × Option Str)) (hpo : pairs.all pairOk = true)
    (hkeys : (pairs.map (·.1)).all keyOk = true) :
    let dn : Name := if xn = .dyn then ⟨[], fn.loc⟩ else noName
    let nm := startName tn xn dn fn
    let A := mkAttrs pairs ++ emptyNsAttr xn nm ps
    nm.loc = fn.loc ∧ (fn.space = [] ∨ nsOfS ctx nm A = fn.space) ∧
      xnAccepts xn ⟨nsOfS ctx nm A, nm.loc⟩ = true ∧
      (if xn = .dyn then (⟨nsOfS ctx nm A, nm.loc⟩ : Name) else noName) = dn ∧
      (ownNs fn xn = true → nm.space ≠ []) ∧
      (∃ tail, viewAttrs A [] = mkAttrs pairs ++ tail ∧ ∀ x ∈ tail, x.name.loc = xmlnsL) := by
  intro dn nm A
  cases xn with
  | dyn =>
    simp only [xnOk, Bool.and_eq_true, List.isEmpty_iff] at hxn
    have hps' := hps hxn.1
    have hnm : nm = ⟨[], fn.loc⟩ := by simp [nm, dn, startName, hne]
    have hA : A = mkAttrs pairs ++ [⟨⟨[], xmlnsL⟩, []⟩] := by simp [A, emptyNsAttr, hnm, hps']
    have hdecl : declNs A = some [] := by
      rw [hA, declNs_mkAttrs pairs _ hkeys]; simp [declNs, xmlnsL]
    have hns : nsOfS ctx nm A = [] := by simp [nsOfS, hnm, hdecl, sanitize]
    refine ⟨by simp [hnm], Or.inl hxn.2, by simp [xnAccepts], ?_, by simp [ownNs], ?_⟩
    · rw [hns, hnm]
    refine ⟨[⟨⟨[], xmlnsL⟩, []⟩], ?_, by simp⟩
    rw [hA, viewAttrs_mkAttrs_append pairs _ [] hpo]
    simp [viewAttrs, xmlnsL, sanitize]
  | absent =>
    have hnm : nm = fn := by simp [nm, startName, hne]
    have hA : A = mkAttrs pairs := by simp [A, emptyNsAttr]
    have hleg : legal fn.space = true := by simpa [xnOk] using hxn
    refine ⟨by simp [hnm], ?_, by simp [xnAccepts], by simp [dn], ?_, ⟨[], by simp [hA, viewAttrs_mkAttrs pairs [] hpo], by simp⟩⟩
    · by_cases hz : fn.space = []
      · exact Or.inl hz
      · right; rw [hnm]; exact nsOfS_own ctx fn A hz hleg
    · intro ho; rw [hnm]; simpa [ownNs] using ho
  | tag n =>
    simp only [xnOk, Bool.and_eq_true, beq_iff_eq, Bool.or_eq_true, List.isEmpty_iff] at hxn
    have hnm : nm = n := by simp [nm, startName]
    have hA : A = mkAttrs pairs := by simp [A, emptyNsAttr]
    refine ⟨by rw [hnm]; exact hxn.1.1, ?_, ?_, by simp [dn], ?_, ⟨[], by simp [hA, viewAttrs_mkAttrs pairs [] hpo], by simp⟩⟩
    · rcases hxn.2 with e | e
      · exact Or.inl e
      · by_cases hz : n.space = []
        · left; rw [e, hz]
        · right; rw [hnm, nsOfS_own ctx n A hz hxn.1.2, e]
    · rw [hnm]
      simp only [xnAccepts, beq_self_eq_true, Bool.true_and, Bool.or_eq_true, List.isEmpty_iff, beq_iff_eq]
      by_cases hz : n.space = []
      · exact Or.inl hz
      · right; rw [nsOfS_own ctx n A hz hxn.1.2]
    · intro ho; rw [hnm]; simpa [ownNs] using ho

theorem struct_rt (pns : Bool) (tn : Str) (xn : XN) (hs : List Hdr) (ts : List Ty) (fn : Name) (hne : fn.loc ≠ [])
    (hw : Ty.wfE fn pns (.struct tn xn hs ts) = true) (hall : AllFieldsOK (ownNs fn xn) hs ts) :
    RtE (.struct tn xn hs ts) fn pns := by
  intro ctx ps om v hps hfit
  obtain ⟨hxn, _, hok, hda, hde, hac, hwf⟩ := wfE_struct hw
  cases v with
  | struct dn vs =>
    obtain ⟨hdn, hff⟩ := fitsE_struct hfit
    subst hdn
    have hpo := attrPairs_ok _ _ hs ts vs hok hwf hff
    have hkeys := attrPairs_keys _ hs ts vs hff
    have hkok := attrPairs_keysOk hs ts vs hok
    obtain ⟨hloc, hsp, hacc, hdn, hown, tail, hview, htail⟩ :=
      struct_start tn xn fn pns hne hxn ctx ps hps (attrPairs hs ts vs) hpo hkok
    refine ⟨_, _, _, encD_struct_ok ps fn om tn xn hs ts _ vs hok, hloc, hsp, ?_⟩
    -- of the start name and the attribute list only what `struct_start` says is used from here on
    generalize startName tn xn _ fn = nm at *
    generalize mkAttrs _ ++ emptyNsAttr xn nm ps = A at *
    rw [viewS_elem, zero_struct, decInto_struct, hacc, hview,
      decAttrsF_ok _ _ _ (attrPairs hs ts vs) ?look hs ts vs hok hwf hff fun p hp => hp]
    case look =>
      intro k o hm
      have hne' := (keyOk_of_mem hkok hm).2
      rw [attrValsK_own k _ _ _ hne', attrValsK_append,
        attrValsK_eq_nil k tail (fun x hx => by rw [htail x hx]; exact Ne.symm hne'), List.append_nil]
      exact attrValsK_mkAttrs k o _ (by rw [hkeys]; exact hda) hm
    have hkids := fields_fold (ownNs fn xn) (nsOfS ctx nm A) nm.space hown (elemNames hs) hs ts vs [] [] [] rfl rfl hok
      hall hff hde (fun h _ _ h' hh' => by simp at hh') (by simp) (by simpa using hac)
    simp only [List.nil_append] at hkids
    simp only [if_true, hkids, hasMode_innerxml hs hok, Bool.false_eq_true, if_false, hdn]
  | _ => cases hfit

end XmppVerif.Proofs.C01S
