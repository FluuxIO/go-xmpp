import XmppVerif.Proofs.C01Pres
namespace XmppVerif.Proofs.C01
open XmppVerif.Model.C01 XmppVerif.Spec.C01 XmppVerif.Props.C01

theorem iqKid_error (ctx : Str) (q : IQ) (e : Err) (he : e.wf = true) :
    iqKid q (view ctx (errElem e)) = some { q with error := some e } := by
  obtain ⟨a, ks, hv⟩ := view_errElem ctx e
  rw [hv, iqKid, if_pos rfl, ← hv, err_rt ctx e he]

theorem iqKid_any (ctx : Str) (q : IQ) (t : Tree) (h : anyOk ctx (some t) = true) :
    iqKid q (view ctx (encNode t)) = some { q with any := some t } := by
  cases t with
  | mk n a c ns =>
    simp only [anyOk, Bool.and_eq_true, bne_iff_ne, ne_eq, Bool.not_eq_true'] at h
    obtain ⟨⟨hwf, hne⟩, hnp⟩ := h
    simp only [Tree.wf, Bool.and_eq_true, Bool.not_eq_true'] at hwf
    obtain ⟨as, ks, hv, hdec⟩ := view_encNode ctx n a c ns hwf.1.1 hwf.1.2 hwf.2
    rw [hv, iqKid]
    dsimp only
    rw [if_neg hne, hnp]
    simp only [Bool.false_eq_true, if_false, hdec]

/-- up to `iqCanon` (a pointer to the all-empty Err has no wire form), which the class makes the identity -/
theorem iq_rt (ctx : Str) (q : IQ) (hw : q.wf ctx = true) :
    decIQ (view ctx (encIQ q)) = some (iqCanon q) := by
  obtain ⟨a, e, t⟩ := q
  simp only [IQ.wf, Bool.and_eq_true] at hw
  obtain ⟨⟨ha, he⟩, ht⟩ := hw
  rw [encIQ, view_unqual ctx _ _ _ (attrs_view a ha)]
  simp only [decIQ, decAttrs_encAttrs, viewL_append, foldKids_append]
  have herror : ∀ e', e = some e' → e'.isEmpty = false ∧ ∀ q : IQ,
      foldKids iqKid q (viewL ctx (encErr e')) = some { q with error := some e' } := by
    intro e' hx
    subst hx
    simp only [Bool.and_eq_true, Bool.not_eq_true'] at he
    refine ⟨he.2, fun q => ?_⟩
    rw [encErr, if_neg (by simp [he.2]), viewL, viewL, foldKids_one, iqKid_error ctx q e' he.1]
  have hany : ∀ t', t = some t' → ∀ q : IQ,
      foldKids iqKid q [view ctx (encNode t')] = some { q with any := some t' } := by
    intro t' hx q
    subst hx
    rw [foldKids_one, iqKid_any ctx q t' ht]
  cases e <;> cases t <;> simp [viewL, foldKids_nil, iqCanon, herror, hany]

end XmppVerif.Proofs.C01
