import XmppVerif.Proofs.C01Schema
/- The attribute loop and the child loop of a struct. -/
namespace XmppVerif.Proofs.C01S
open XmppVerif.Model.C01
open XmppVerif.Model.C01S XmppVerif.Spec.C01 XmppVerif.Props.C01 XmppVerif.Proofs.C01

/-- As in `decFields_ok`, `pairs` stays the whole list of written pairs while the induction runs down the fields. -/
theorem decAttrsF_ok (pns : Bool) (tk : List Str) (attrs : List Attr) (pairs : List (Str × Option Str))
    (hlook : ∀ k o, (k, o) ∈ pairs → attrValsK k attrs = o.toList) (hs : List Hdr) (ts : List Ty) (vs : List Val)
    (hok : hs.all hdrOk = true) (hwf : Ty.wfFields pns hs ts = true) (hf : Val.fitsFields tk hs ts vs = true)
    (hsub : ∀ p ∈ attrPairs hs ts vs, p ∈ pairs) : decAttrsF attrs hs ts (zeroL ts) = some (attrPart hs ts vs) := by
  induction hs, ts, vs, hf using fitsFields_induction with
  | nil => rfl
  | cons h hs t ts v vs hf1 _ _ ih =>
    simp only [List.all_cons, Bool.and_eq_true] at hok
    rw [wfFields_cons, Bool.and_eq_true] at hwf
    rw [attrPairs_cons] at hsub
    have ih := ih hok.2 hwf.2 (fun p hp => hsub p (by simp [hp]))
    rw [zeroL_cons, decAttrsF, ih, attrPart]
    by_cases hm : h.mode = .attr
    · have hsp : h.name.space = [] := by
        have := hok.1; simp only [hdrOk, hm, Bool.and_eq_true, List.isEmpty_iff] at this; exact this.1
      have hty : attrTyOk t = true := by simpa [hm] using hwf.1
      have hl := hlook h.name.loc (attrOut h t v) (hsub _ (by simp [hm]))
      have haf := attr_field h t v hty (by simpa [hm] using hf1)
      rw [if_pos hm, if_pos hm, attrVals_plain h hsp, hl]
      cases ho : attrOut h t v with
      | none => rw [ho] at haf; simp [decAttr1, haf]
      | some s => rw [ho] at haf; simp [decAttr1, haf.2]
    · simp [hm]

def noneTakes (hp : List Hdr) (loc : Str) : Prop := ∀ h' ∈ hp, ∀ sp, hdrTakes h' ⟨sp, loc⟩ = false

/- Here and below `hp tp pv` are the headers, types and values of the fields in front of the field looked at, and
`hs ts vs` (in the field lemmas `hs ts sv`) those behind it. -/
theorem decKidF_skip (kn : Name) (ka : List Attr) (kk : List El) (hs : List Hdr) (ts : List Ty) (vs : List Val) :
    ∀ (hp : List Hdr) (tp : List Ty) (pv : List Val), hp.length = tp.length → hp.length = pv.length →
      (∀ h' ∈ hp, hdrTakes h' kn = false) →
      decKidF (hp ++ hs) (tp ++ ts) (pv ++ vs) (.elem kn ka kk) = (decKidF hs ts vs (.elem kn ka kk)).map (pv ++ ·) :=
  len3_induction (fun _ => by simp) fun h hp t tp v pv ih hno => by
    have ih := ih fun h' hh => hno h' (by simp [hh])
    have hh : hdrTakes h kn = false := hno h (by simp)
    simp only [List.cons_append, decKidF_cons, hh, Bool.false_eq_true, if_false, ih, Option.map_map]
    rfl

theorem decKid_at (hp hs : List Hdr) (tp ts : List Ty) (pv sv : List Val) (h : Hdr) (t : Ty) (cur : Val)
    (kn : Name) (ka : List Attr) (kk : List El) (h1 : hp.length = tp.length) (h2 : hp.length = pv.length)
    (hno : ∀ h' ∈ hp, hdrTakes h' kn = false) (ht : hdrTakes h kn = true) :
    decKid (hp ++ h :: hs) (tp ++ t :: ts) (pv ++ cur :: sv) (.elem kn ka kk) =
      (decInto t cur (.elem kn ka kk)).map fun x => pv ++ x :: sv := by
  have hany : (hp ++ h :: hs).any (hdrTakes · kn) = true := by
    simp only [List.any_append, List.any_cons, ht, Bool.true_or, Bool.or_true]
  simp only [decKid, hany, if_true, decKidF_skip kn ka kk _ _ _ hp tp pv h1 h2 hno, decKidF_cons, ht, Option.map_map]
  rfl

theorem hdrTakes_own (h : Hdr) (sp loc : Str) (hm : h.mode = .elem) (hl : loc = h.name.loc)
    (hsp : h.name.space = [] ∨ sp = h.name.space) : hdrTakes h ⟨sp, loc⟩ = true := by
  simp only [hdrTakes, hm, hl, beq_self_eq_true, Bool.true_or, Bool.true_and, Bool.or_eq_true, List.isEmpty_iff, beq_iff_eq]
  rcases hsp with e | e
  · left; exact e
  · right; exact e.symm

theorem decAnyF_skip (k : El) (hs : List Hdr) (ts : List Ty) (vs : List Val) :
    ∀ (hp : List Hdr) (tp : List Ty) (pv : List Val), hp.length = tp.length → hp.length = pv.length →
      (∀ h' ∈ hp, h'.mode ≠ .any) →
      decAnyF (hp ++ hs) (tp ++ ts) (pv ++ vs) k = (decAnyF hs ts vs k).map (pv ++ ·) :=
  len3_induction (fun _ => by simp) fun h hp t tp v pv ih hno => by
    have ih := ih fun h' hh => hno h' (by simp [hh])
    have hh : ¬ h.mode = .any := hno h (by simp)
    simp only [List.cons_append, decAnyF_cons, hh, if_false, ih, Option.map_map]
    rfl

theorem decKid_any (hp hs : List Hdr) (tp ts : List Ty) (pv sv : List Val) (h : Hdr) (t : Ty) (cur : Val)
    (kn : Name) (ka : List Attr) (kk : List El) (h1 : hp.length = tp.length) (h2 : hp.length = pv.length)
    (hm : h.mode = .any) (hnoany : ∀ h' ∈ hp, h'.mode ≠ .any)
    (hno : ∀ h' ∈ hp ++ h :: hs, hdrTakes h' kn = false) :
    decKid (hp ++ h :: hs) (tp ++ t :: ts) (pv ++ cur :: sv) (.elem kn ka kk) =
      (decInto t cur (.elem kn ka kk)).map fun x => pv ++ x :: sv := by
  have hany : (hp ++ h :: hs).any (hdrTakes · kn) = false := by
    rw [List.any_eq_false]; intro x hx; simp [hno x hx]
  have hhas : hasMode .any (hp ++ h :: hs) = true := by
    simp [hasMode, hm]
  simp only [decKid, hany, Bool.false_eq_true, if_false, hhas, if_true,
    decAnyF_skip _ _ _ _ hp tp pv h1 h2 hnoany, decAnyF_cons, hm, Option.map_map]
  rfl

end XmppVerif.Proofs.C01S
