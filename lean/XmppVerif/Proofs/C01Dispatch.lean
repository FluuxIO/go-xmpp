import XmppVerif.Proofs.C01Compose
import XmppVerif.Model.C01Dispatch
namespace XmppVerif.Proofs.C01S
open XmppVerif.Model.C01
open XmppVerif.Model.C01S XmppVerif.Spec.C01 XmppVerif.Props.C01 XmppVerif.Proofs.C01 XmppVerif.Props.C01S

theorem dispatch_rt (d : DSpec) (ctx : Str) (v : DVal) (hv : v.wf d = true) :
    decDispatch d (viewS ctx (encDispatch d v)) = some v := by
  obtain ⟨sel, set⟩ := v
  simp only [DVal.wf, Bool.and_eq_true] at hv
  obtain ⟨hset, hsel⟩ := hv
  have hs : set = .nil := by
    cases set <;> first | rfl | cases hset
  subst hs
  have hsetk : (if d.hasSet then (if isEmptyVal Val.nil then []
      else encD d.name.space ⟨[], ['s', 'e', 't']⟩ true (.ptr tyResultSet) Val.nil) else []) = ([] : List El) := by
    split <;> simp [isEmptyVal]
  rw [encDispatch, hsetk, List.append_nil, viewS_elem, decDispatch]
  cases sel with
  | none => rfl
  | some x =>
    obtain ⟨n, ht, hcase⟩ := caseOk_tagged d.cases x hsel
    obtain ⟨n', a, ks, hview, hloc, -, hdec⟩ :=
      tagged_rt x n ht d.name.space ⟨[], d.field.toList⟩ false (nsOfS ctx d.name [])
    dsimp only
    rw [hview, foldKids_one]
    simp only [dKid, hloc, hcase, hdec, Option.map_some]

end XmppVerif.Proofs.C01S
