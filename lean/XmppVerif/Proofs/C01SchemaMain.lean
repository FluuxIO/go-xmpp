import XmppVerif.Proofs.C01SchemaRt
/- Induction over a well-formed schema, stated once (`WfMotive`), and
the round trip as its first instance. -/
namespace XmppVerif.Proofs.C01S
open XmppVerif.Model.C01
open XmppVerif.Model.C01S XmppVerif.Spec.C01 XmppVerif.Props.C01 XmppVerif.Proofs.C01

/-- The hypotheses of an induction over a well-formed schema, following `Ty.wfE` / `Ty.wfF` / `Ty.wfFields`.
`P fn pns t`: the property of an element type `t` written under the field name `fn`. `F h pns t`: the property of the
type `t` of an element field with header `h`, one hypothesis per form `Ty.wfF` admits (interface, History, pointer to a
type with its own codec, and an element type bare, behind a pointer, in a slice, in a slice of pointers).
`Q pns hs ts`: the property of the field lists of a struct. -/
structure WfMotive (P : Name → Bool → Ty → Prop) (F : Hdr → Bool → Ty → Prop)
    (Q : Bool → List Hdr → List Ty → Prop) : Prop where
  prim : ∀ fn pns k, Ty.wfE fn pns (.prim k) = true → P fn pns (.prim k)
  struct : ∀ fn pns tn xn hs ts, Ty.wfE fn pns (.struct tn xn hs ts) = true → Q (ownNs fn xn) hs ts →
    P fn pns (.struct tn xn hs ts)
  iface : ∀ h pns, F h pns .iface
  history : ∀ h pns, h.mode = .elem → h.name.loc = historyL → h.name.space = [] → F h pns .history
  ptrU : ∀ h pns w, F h pns (.ptr (.unsupported w))
  bare : ∀ h pns e, h.mode = .elem → nameOk h.name.loc = true → Ty.wfE h.name pns e = true → P h.name pns e →
    F h pns e
  ptr : ∀ h pns e, h.mode = .elem → nameOk h.name.loc = true → Ty.wfE h.name pns e = true → P h.name pns e →
    F h pns (.ptr e)
  slice : ∀ h pns e, h.mode = .elem → nameOk h.name.loc = true → Ty.wfE h.name pns e = true → P h.name pns e →
    F h pns (.slice e)
  slicePtr : ∀ h pns e, h.mode = .elem → nameOk h.name.loc = true → Ty.wfE h.name pns e = true → P h.name pns e →
    F h pns (.slice (.ptr e))
  -- `Ty.wfFields` is `true` when one list runs out before the other: the property is asked there too
  short : ∀ pns hs ts, hs = [] ∨ ts = [] → Q pns hs ts
  cons : ∀ pns h hs t ts, hdrOk h = true → (h.mode = .attr → attrTyOk t = true) → (h.mode = .elem → F h pns t) →
    (h.mode = .any → t = .ptr .node) → Q pns hs ts → Q pns (h :: hs) (t :: ts)

/- `Ty` is a nested inductive type: the recursion is structural only through `cases`, so the case analysis of `Ty.wfF`
is written out here, once, and the properties below are instances. -/
mutual
theorem WfMotive.elem {P F Q} (m : WfMotive P F Q) (t : Ty) (fn : Name) (pns : Bool) (hw : Ty.wfE fn pns t = true) :
    P fn pns t := by
  cases t with
  | prim k => exact m.prim fn pns k hw
  | struct tn xn hs ts =>
    exact m.struct fn pns tn xn hs ts hw (m.fields ts (ownNs fn xn) hs (wfE_struct hw).2.2.1 (wfE_struct hw).2.2.2.2.2.2)
  | _ => cases hw
theorem WfMotive.fields {P F Q} (m : WfMotive P F Q) (ts : List Ty) (pns : Bool) (hs : List Hdr)
    (hok : hs.all hdrOk = true) (hwf : Ty.wfFields pns hs ts = true) : Q pns hs ts := by
  cases ts with
  | nil => exact m.short pns hs [] (Or.inr rfl)
  | cons t ts =>
    cases hs with
    | nil => exact m.short pns [] _ (Or.inl rfl)
    | cons h hs =>
      simp only [List.all_cons, Bool.and_eq_true] at hok
      rw [wfFields_cons, Bool.and_eq_true] at hwf
      refine m.cons pns h hs t ts hok.1 ?_ ?_ ?_ (m.fields ts pns hs hok.2 hwf.2)
      · intro hm; simpa [hm] using hwf.1
      · intro hm
        have hwF : Ty.wfF h.name pns t = true := by simpa [hm] using hwf.1
        have hn : nameOk h.name.loc = true := by simpa [hdrOk, hm] using hok.1
        cases t with
        | iface => exact m.iface h pns
        | history =>
          have hh : (h.name.loc == historyL && h.name.space.isEmpty) = true := hwF
          simp only [Bool.and_eq_true, beq_iff_eq, List.isEmpty_iff] at hh
          exact m.history h pns hm hh.1 hh.2
        | ptr t' =>
          cases t' with
          | unsupported w => exact m.ptrU h pns w
          | _ => exact m.ptr h pns _ hm hn hwF (m.elem _ h.name pns hwF)
        | slice t' =>
          cases t' with
          | ptr e => exact m.slicePtr h pns e hm hn hwF (m.elem e h.name pns hwF)
          | _ => exact m.slice h pns _ hm hn hwF (m.elem _ h.name pns hwF)
        | _ => exact m.bare h pns _ hm hn hwF (m.elem _ h.name pns hwF)
      · intro hm
        have hwA : Ty.wfAny t = true := by simpa [hm] using hwf.1
        cases t with
        | ptr t' =>
          cases t' with
          | node => rfl
          | _ => cases hwA
        | _ => cases hwA
end

theorem rt_motive : WfMotive (fun fn pns t => fn.loc ≠ [] → RtE t fn pns) (fun h pns t => FieldOK pns h t)
    AllFieldsOK where
  prim fn pns k hw hne := prim_rt k fn pns (Bool.and_eq_true_iff.mp hw).2 hne
  struct fn pns tn xn hs ts hw hQ hne := struct_rt pns tn xn hs ts fn hne hw hQ
  iface h pns := field_iface pns h
  history h pns hm hl hsp := field_history pns h hm hl hsp
  ptrU h pns w := field_ptrU pns h w
  bare h pns e hm hn hw hP :=
    field_E pns h hm e (hP (nameOk_ne_nil _ hn)) (fitsF_E hw h.om) (empty_is_zeroE hw)
  ptr h pns e hm hn hw hP := field_ptr pns h hm e hw (hP (nameOk_ne_nil _ hn))
  slice h pns e hm hn hw hP := field_slice pns h hm e hw (hP (nameOk_ne_nil _ hn))
  slicePtr h pns e hm hn hw hP := field_slicePtr pns h hm e hw (hP (nameOk_ne_nil _ hn))
  short pns hs ts h := by
    rcases h with rfl | rfl
    · trivial
    · cases hs <;> trivial
  cons pns h hs t ts _ _ he hy hQ := ⟨he, hy, hQ⟩

theorem rtE (t : Ty) (fn : Name) (pns : Bool) (hne : fn.loc ≠ []) (hw : Ty.wfE fn pns t = true) : RtE t fn pns :=
  rt_motive.elem t fn pns hw hne

theorem rtFs (ts : List Ty) (pns : Bool) (hs : List Hdr) (hok : hs.all hdrOk = true)
    (hwf : Ty.wfFields pns hs ts = true) : AllFieldsOK pns hs ts :=
  rt_motive.fields ts pns hs hok hwf

end XmppVerif.Proofs.C01S
