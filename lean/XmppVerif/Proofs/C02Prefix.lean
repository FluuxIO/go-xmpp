import XmppVerif.Props.C02
/-
Token-level helper lemmas for the byte-cut theorems: a decoder run that succeeded on a token list succeeds in the same
way on every extension of it (it never looked at the tokens it did not consume), hence a proper prefix of an element's
tokens yields no packet.
-/
namespace XmppVerif.Proofs.C02Prefix
open XmppVerif.Model.C02 XmppVerif.Spec.C02 XmppVerif.Props.C02

theorem succ_of_le {f g : Nat} (h : f + 1 ≤ g) : ∃ g', g = g' + 1 ∧ f ≤ g' := ⟨g - 1, by omega, by omega⟩

theorem run_extend (A : Dec → Name → Arm) : ∀ (f g : Nat) (dec : Dec) (self : Name) (d : Nat) (ts r : List Tok) (i : Info)
    (more : List Tok), f ≤ g → run A f dec self d ts = .ok r i → run A g dec self d (ts ++ more) = .ok (r ++ more) i := by
  intro f g dec self d ts r i more hg h
  -- the cases of `run.induct` are numbered as at `run_length` in Props/C02.lean; those that return an error contradict
  -- `h`, and in the others the larger fuel `g` is a successor as well. The named case hypotheses are the tests and results
  -- that select the branch: `hb`, `hd` the end-element tests, `harm` the arm, `hc` / `hv` / `hr` child, value, rest
  fun_induction run A f dec self d ts generalizing g r i with
  | case1 | case2 | case4 | case6 | case8 | case11 | case13 | case14 | case15 => cases h
  | case3 _ _ _ _ _ _ _ _ hr ih =>
    obtain ⟨g, rfl, hg'⟩ := succ_of_le hg
    cases h
    simp only [List.cons_append, run, ih g _ _ hg' hr]
  | case5 _ _ _ _ _ ih =>
    obtain ⟨g, rfl, hg'⟩ := succ_of_le hg
    simp only [List.cons_append, run, ih g _ _ hg' h]
  | case7 _ _ _ _ _ hb =>
    obtain ⟨g, rfl, hg'⟩ := succ_of_le hg
    cases h
    simp only [List.cons_append, run, if_true, hb, Bool.false_eq_true, if_false]
  | case9 _ _ _ _ _ _ hd hb ih =>
    obtain ⟨g, rfl, hg'⟩ := succ_of_le hg
    simp only [List.cons_append, run, hd, hb, Bool.false_eq_true, if_false, ih g _ _ hg' h]
  | case10 _ _ _ _ _ _ _ harm ih =>
    obtain ⟨g, rfl, hg'⟩ := succ_of_le hg
    simp only [List.cons_append, run, harm, ih g _ _ hg' h]
  | case12 _ _ _ _ _ _ _ _ harm _ _ hc hv _ _ hr ihc ihr =>
    obtain ⟨g, rfl, hg'⟩ := succ_of_le hg
    cases h
    simp only [List.cons_append, run, harm, ihc g _ _ hg' hc, hv, if_true, ihr g _ _ hg' hr]

theorem nextPacket_extend : ∀ (ts r more : List Tok) (p : Packet),
    nextPacket ts = (.pkt p, r) → nextPacket (ts ++ more) = (.pkt p, r ++ more) := by
  intro ts r more p h
  unfold nextPacket at h ⊢
  -- the cases of `nextPacketWith.induct` are numbered as at `nextPacket_length` in Props/C02.lean
  fun_induction nextPacketWith armFix ts with
  | case1 | case6 | case8 | case9 => cases h
  | case2 _ _ ih | case3 _ ih => exact ih h
  | case4 =>
    cases h
    simp only [List.cons_append, nextPacketWith, if_true]
  | case5 _ _ hn ih =>
    simp only [List.cons_append, nextPacketWith, hn, if_false]
    exact ih h
  | case7 _ _ r _ hk _ _ hr hta =>
    cases h
    have := run_extend armFix _ ((r ++ more).length + 1) _ _ _ _ _ _ more (by simp) hr
    simp only [List.cons_append, nextPacketWith, hk, this, hta, if_true]

theorem no_packet_from_proper_prefix (n : Name) (as : List Attr) (kk : List Tree) (front more : List Tok)
    (hsplit : toks (.elem n as kk) = front ++ more) (hmore : more ≠ []) : ∃ e, packets front = [.err e] := by
  rw [packets_unfold]
  cases hnp : nextPacket front with
  | mk res r =>
    cases res with
    | err e => exact ⟨e, rfl⟩
    | pkt p =>
      exfalso
      have h1 := nextPacket_extend front r more p hnp
      rw [← hsplit] at h1
      -- `nextPacket_elem` and `nextPacket_unknown` speak of an element followed by a rest: here the rest is empty
      have h2 : toks (.elem n as kk) = toks (.elem n as kk) ++ [] := (List.append_nil _).symm
      rw [h2] at h1
      cases hd : dispatch n with
      | none =>
        have := nextPacket_unknown n as kk [] hd
        rw [h1] at this
        simp at this
      | some k =>
        rw [nextPacket_elem n as kk [] k hd] at h1
        split at h1
        · injection h1 with _ h3
          exact hmore (List.append_eq_nil_iff.mp h3.symm).2
        · simp at h1

end XmppVerif.Proofs.C02Prefix
