import XmppVerif.Proofs.C02BytesRoundTrip
/-
The canonical spelling `unTree` / `unTreeL` of a token-level tree is in the class of the round-trip theorem and
resolves back to the tree: the class of token forests that the byte-level theorems cover contains every forest for
which `unTreeL` answers `some`.
-/
namespace XmppVerif.Proofs.C02Bytes
open XmppVerif.Model.C02 XmppVerif.Model.C02Bytes XmppVerif.Spec.C02Bytes

theorem escChar_cases (c : Char) :
    (escChar c = .raw c ∧ c ≠ '<' ∧ c ≠ '>' ∧ c ≠ '&' ∧ c ≠ '"' ∧ c ≠ '\'' ∧ c ≠ '\r') ∨
      (∃ e, escChar c = .named e ∧ e.char = c) ∨ (escChar c = .num true ['D'] ∧ c = '\r') := by
  by_cases h1 : c = '<'
  · subst h1
    exact Or.inr (Or.inl ⟨.lt, rfl, rfl⟩)
  by_cases h2 : c = '>'
  · subst h2
    exact Or.inr (Or.inl ⟨.gt, rfl, rfl⟩)
  by_cases h3 : c = '&'
  · subst h3
    exact Or.inr (Or.inl ⟨.amp, rfl, rfl⟩)
  by_cases h4 : c = '"'
  · subst h4
    exact Or.inr (Or.inl ⟨.quot, rfl, rfl⟩)
  by_cases h5 : c = '\''
  · subst h5
    exact Or.inr (Or.inl ⟨.apos, rfl, rfl⟩)
  by_cases h6 : c = '\r'
  · subst h6
    exact Or.inr (Or.inr ⟨rfl, rfl⟩)
  · exact Or.inl ⟨by simp only [escChar, h1, h2, h3, h4, h5, h6, if_false], h1, h2, h3, h4, h5, h6⟩

theorem escChar_char (c : Char) : (escChar c).char = c := by
  rcases escChar_cases c with ⟨e, _⟩ | ⟨e, he, hc⟩ | ⟨he, hc⟩
  · rw [e]; rfl
  · rw [he]; exact hc
  · rw [he, hc]; decide

theorem chars_esc (s : List Char) : chars (esc s) = s := by
  induction s with
  | nil => rfl
  | cons c cs ih =>
    simp only [esc, chars, List.map_cons] at ih ⊢
    rw [escChar_char, ih]

theorem esc_ok (q : Option Char) (hq : ∀ d, q = some d → d = '"' ∨ d = '\'') : ∀ (s : List Char) (p0 p1 : Char),
    s.all isXmlChar = true → piecesOk q p0 p1 (esc s) = true := by
  intro s
  induction s with
  | nil => intro _ _ _; rfl
  | cons c cs ih =>
    intro p0 p1 h
    simp only [List.all_cons, Bool.and_eq_true] at h
    have hcons : esc (c :: cs) = escChar c :: esc cs := rfl
    rw [hcons]
    rcases escChar_cases c with ⟨e, h1, h2, h3, h4, h5, h6⟩ | ⟨e, he, _⟩ | ⟨he, _⟩
    · rw [e]
      have hqc : q ≠ some c := fun e => (hq c e).elim h4 h5
      have hraw := (rawOk_iff q c).mpr ⟨h.1, h1, h3, h6, hqc⟩
      simp [piecesOk, hraw, h2, ih p1 c h.2]
    · rw [he]
      simp only [piecesOk, Piece.ok, Bool.true_and]; exact ih _ _ h.2
    · rw [he]
      have : Piece.ok q (.num true ['D']) = true := by simp only [Piece.ok]; decide
      simp only [piecesOk, this, Bool.true_and]; exact ih _ _ h.2

theorem ofList_toList (s : String) : String.ofList s.toList = s := by simp

/-- whatever `env` declares: an attribute that has a canonical spelling is unprefixed or a declaration itself -/
theorem unAttr_spec (env : Env) (a : Attr) (x : SAttr) (h : unAttr a = some x) : x.ok = true ∧ mkAttr env x.raw = a := by
  unfold unAttr at h
  split at h
  · rename_i hc
    simp only [Bool.and_eq_true] at hc
    have hv := esc_ok (some '"') (by simp) a.value.toList nul nul hc.2
    obtain ⟨⟨sp, lo⟩, v⟩ := a
    split at h
    · rename_i hs
      injection h with h
      simp only at hs hc hv
      subst h hs
      exact ⟨by simp [SAttr.ok, wsOk, isSpace, qnameOk, hc.1, SAttr.quote, hv],
        by simp [mkAttr, SAttr.raw, translate, mkName, chars_esc]⟩
    · split at h
      · rename_i hs
        injection h with h
        simp only at hs hc hv
        subst h hs
        have hx : ncOk xmlnsL = true ∧ String.ofList xmlnsL = "xmlns" := by decide
        exact ⟨by simp [SAttr.ok, wsOk, isSpace, qnameOk, hc.1, hx.1, SAttr.quote, hv],
          by simp [mkAttr, SAttr.raw, translate, mkName, chars_esc, hx.2]⟩
      · simp at h
  · simp at h

theorem unAttrs_spec (env : Env) : ∀ (as : List Attr) (xs : List SAttr), unAttrs as = some xs →
    xs.all SAttr.ok = true ∧ (xs.map SAttr.raw).map (mkAttr env) = as := by
  intro as
  induction as with
  | nil => intro xs h; simp [unAttrs] at h; subst h; simp
  | cons a as ih =>
    intro xs h
    simp only [unAttrs] at h
    split at h
    · rename_i x xs' hx hxs
      injection h with h; subst h
      obtain ⟨h1, h2⟩ := ih xs' hxs
      simp [unAttr_spec env a x hx, h1, h2]
    · simp at h

/-- not an equivalence: a CDATA section resolves to character data too -/
theorem isText_resolve (env : Env) (x : STree) (h : x.isText = true) : treeIsText (resolve env x) = true := by
  cases x <;> simp [STree.isText] at h
  rfl

mutual
theorem unTree_spec (env : Env) (t : Tree) : ∀ (x : STree), unTree env t = some x → x.ok = true ∧ resolve env x = t := by
  cases t with
  | elem n as kids =>
    intro x h
    simp only [unTree] at h
    split at h
    · simp at h
    · rename_i sas hsas
      split at h
      · simp at h
      · rename_i c hfind
        have hc := List.find?_some hfind
        simp only [Bool.and_eq_true, decide_eq_true_eq] at hc
        split at h
        · rename_i ks hks
          injection h with h; subst h
          obtain ⟨ha1, ha2⟩ := unAttrs_spec (envOf env sas) as sas hsas
          obtain ⟨hk1, hk2⟩ := unTreeL_spec (envOf env sas) kids ks hks
          refine ⟨?_, ?_⟩
          · simp [STree.ok, hc.1, ha1, wsOk, hk1]
          · simp only [resolve, hc.2, ha2, hk2]
        · simp at h
  | text s =>
    intro x h
    simp only [unTree] at h
    split at h
    · rename_i hc
      simp only [Bool.and_eq_true, Bool.not_eq_true'] at hc
      injection h with h; subst h
      refine ⟨?_, ?_⟩
      · have hne : (esc s.toList).isEmpty = false := by
          cases hs : s.toList with
          | nil => simp [hs] at hc
          | cons c cs => simp [esc]
        simp [STree.ok, hne, esc_ok none nofun s.toList nul nul hc.2]
      · simp [resolve, chars_esc]
    · simp at h
  | misc =>
    intro x h
    simp only [unTree] at h
    injection h with h; subst h
    exact ⟨by decide, rfl⟩
theorem unTreeL_spec (env : Env) (ts : List Tree) : ∀ (xs : List STree), unTreeL env ts = some xs →
    okL xs = true ∧ resolveL env xs = ts := by
  cases ts with
  | nil => intro xs h; simp [unTreeL] at h; subst h; exact ⟨rfl, rfl⟩
  | cons t us =>
    cases us with
    | nil =>
      intro xs h
      simp only [unTreeL, Option.map_eq_some_iff] at h
      obtain ⟨x, hx, e⟩ := h
      subst e
      obtain ⟨h1, h2⟩ := unTree_spec env t x hx
      exact ⟨by simp [okL, h1], by simp [resolveL, h2]⟩
    | cons u r =>
      intro xs h
      simp only [unTreeL] at h
      split at h
      · simp at h
      · rename_i hadj
        split at h
        · rename_i x xs' hx hxs
          injection h with h; subst h
          obtain ⟨h1, h2⟩ := unTree_spec env t x hx
          obtain ⟨h3, h4⟩ := unTreeL_spec env (u :: r) xs' hxs
          -- were the neighbours `x`, `y` both character data, so would be what they resolve to, `t` and `u`
          cases xs' with
          | nil => simp [resolveL] at h4
          | cons y ys =>
            simp only [resolveL, List.cons.injEq] at h4
            have hxy : (x.isText && y.isText) = false := Bool.eq_false_iff.mpr fun hb => by
              simp only [Bool.and_eq_true] at hb
              exact hadj (by rw [← h2, ← h4.1, isText_resolve env x hb.1, isText_resolve env y hb.2]; rfl)
            exact ⟨by simp [okL, h1, h3, hxy], by simp only [resolveL, h2, h4.1, h4.2]⟩
        · simp at h
end

end XmppVerif.Proofs.C02Bytes
