import XmppVerif.Proofs.C01Dispatch
import XmppVerif.Model.C01Command
namespace XmppVerif.Proofs.C01S
open XmppVerif.Model.C01
open XmppVerif.Model.C01S XmppVerif.Spec.C01 XmppVerif.Props.C01 XmppVerif.Proofs.C01 XmppVerif.Props.C01S

theorem cmdKid_elem (acc : List CmdEl) (e : CmdEl) (he : e.wf = true) :
    foldKids cmdKid acc (viewSL nsCommands (encCmdEl e)) = some (acc ++ [e]) := by
  cases e with
  | ext x =>
    obtain ⟨n, ht, hcase⟩ := caseOk_tagged cmdCases x he
    obtain ⟨n', a, ks, hview, hloc, -, hdec⟩ :=
      tagged_rt x n ht nsCommands ⟨[], "CommandElements".toList⟩ false nsCommands
    rw [encCmdEl, hview, foldKids_one]
    simp only [cmdKid, hloc, hcase, hdec, Option.map_some]
  | node t =>
    cases t with
    | mk n a c ns =>
      simp only [CmdEl.wf, Bool.and_eq_true, Option.isNone_iff_eq_none] at he
      obtain ⟨hwf, hno⟩ := he
      simp only [Tree.wf, Bool.and_eq_true, Bool.not_eq_true'] at hwf
      obtain ⟨as, ks, hv, hdec⟩ := viewS_encNode_elem nsCommands n a c ns hwf.1.1 hwf.1.2 hwf.2
      rw [encCmdEl, viewSL_one, foldKids_one, hv]
      simp only [cmdKid, hno, hdec, Option.map]

theorem cmd_fold (els : List CmdEl) (h : ∀ e ∈ els, e.wf = true) :
    foldKids cmdKid [] (viewSL nsCommands (els.flatMap encCmdEl)) = some els := by
  rw [viewSL_flatMap]
  exact foldKids_flatMap cmdKid _ id els [] fun e he pre => cmdKid_elem pre e (h e he)

theorem encFlags_false (names : List Str) (flags : List Bool) (h : ∀ b ∈ flags, b = false) :
    encFlags names flags = [] := by
  induction names generalizing flags with
  | nil => simp [encFlags]
  | cons n names ih =>
    cases flags with
    | nil => simp [encFlags]
    | cons b flags =>
      rw [encFlags, h b List.mem_cons_self, ih flags fun b' hb' => h b' (List.mem_cons_of_mem _ hb')]
      rfl

theorem command_rt (ctx : Str) (v : CommandV) (hv : v.wf = true) :
    decCommand (viewS ctx (encCommand v)) = some v := by
  obtain ⟨a, els, flags, set⟩ := v
  simp only [CommandV.wf, Bool.and_eq_true, beq_iff_eq] at hv
  obtain ⟨⟨⟨⟨⟨⟨⟨h1, h2⟩, h3⟩, h4⟩, h5⟩, hels⟩, hfl⟩, hset⟩ := hv
  have hs : set = .nil := by
    cases set <;> first | rfl | cases hset
  subst hs hfl
  have hkeys : ((cmdAttrPairs a).map (·.1)).all keyOk = true ∧ distinct ((cmdAttrPairs a).map (·.1)) = true := by
    simp only [cmdAttrPairs, List.map_cons, List.map_nil]
    decide +kernel
  have hpo : (cmdAttrPairs a).all pairOk = true := by
    have hk := hkeys.1
    simp only [cmdAttrPairs, List.map_cons, List.map_nil, List.all_cons, List.all_nil, Bool.and_eq_true] at hk ⊢
    exact ⟨omitEmpty_ok _ _ hk.1 h1, by simp only [pairOk, hk.2.1, h2, Bool.and_self], omitEmpty_ok _ _ hk.2.2.1 h3,
      omitEmpty_ok _ _ hk.2.2.2.1 h4, omitEmpty_ok _ _ hk.2.2.2.2.1 h5, trivial⟩
  have hns : nsOfS ctx ⟨nsCommands, "command".toList⟩ (mkAttrs (cmdAttrPairs a)) = nsCommands :=
    nsOfS_own ctx _ _ (by decide +kernel) (by decide +kernel)
  have hlook := lastAttr?_written (cmdAttrPairs a) hkeys.1 hkeys.2 [⟨⟨[], xmlnsL⟩, sanitize nsCommands⟩] rfl
  simp only [cmdAttrPairs, List.forall_mem_cons] at hlook
  rw [encCommand, viewS_elem, hns, encFlags_false _ _ (by simp)]
  simp only [isEmptyVal, if_true, List.append_nil, decCommand, viewAttrs_mkAttrs _ [] hpo]
  rw [cmd_fold els (fun e he => List.all_eq_true.mp hels e he)]
  simp only [Option.map, if_neg (by decide +kernel : nsCommands ≠ []), cmdAttrPairs, lastAttr, hlook, omitEmpty_getD,
    Option.getD_some]

end XmppVerif.Proofs.C01S
