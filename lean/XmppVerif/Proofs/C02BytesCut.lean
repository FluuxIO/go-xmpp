import XmppVerif.Proofs.C02BytesRoundTrip
/-
Cutting a rendered stream at a character offset (for C12, stage B): the complete tokens of a proper prefix of a
rendered tree are a PROPER prefix of the tree's tokens - the element's closing token is missing - because no proper
prefix of a lexeme is itself a lexeme (a lexical step is deterministic and stable under extension of the input).
-/
namespace XmppVerif.Proofs.C02Bytes
open XmppVerif.Model.C02Bytes XmppVerif.Spec.C02Bytes

theorem not_ok_strict {m : Mode} {a b rest : List Char} {w : Mode × Ev}
    (hL : lexStep m (a ++ (b ++ rest)) = .ok w rest) (hb : b ≠ []) : ∀ v r, lexStep m a ≠ .ok v r := by
  intro v r h
  have := (good1_lexStep m a v r h).2 (b ++ rest)
  rw [hL] at this
  injection this with _ h2
  have := congrArg List.length h2
  simp only [List.length_append] at this
  have : b.length = 0 := by omega
  exact hb (List.eq_nil_of_length_eq_zero this)

theorem complete_nil_of_not_ok (m : Mode) (st : Stack) (a : List Char) (h : ∀ v r, lexStep m a ≠ .ok v r) :
    (tokenizeFrom m st a).complete = [] := by
  apply complete_halt
  cases ht : turn m st a with
  | none => rfl
  | some p =>
    obtain ⟨ev, hl, _⟩ := turn_eq_some.mp ht
    exact absurd hl (h _ _)

theorem cut_last (t : STree) (st : Stack) (body : List Char) (c : Char) (hok : t.ok = true) (h : render t = body ++ [c]) :
    ∃ ys, ys ≠ [] ∧ btoks (curEnv st) t = (tokenizeFrom .content st body).complete ++ ys := by
  cases t with
  | elem q as tail kids etail =>
    simp only [STree.ok, Bool.and_eq_true] at hok
    obtain ⟨⟨⟨⟨hq, has⟩, ht⟩, het⟩, hkids⟩ := hok
    have hr : render (.elem q as tail kids etail) =
        (renderOpen q as tail ++ (renderL kids ++ '<' :: '/' :: (renderQ q ++ etail))) ++ ['>'] := by
      simp [render, renderOpen]
    rw [hr] at h
    obtain ⟨hb, _⟩ := List.append_inj' h rfl
    subst hb
    -- the header and the children in full; of the closing tag the `>` is missing
    have hl := lexStep_endTag q etail [] hq het
    rw [tok_header q as tail st _ hq has ht, rt_list kids _ _ hkids (fun _ => ⟨_, rfl⟩), pre_pre, complete_pre,
      complete_nil_of_not_ok _ _ _ (not_ok_strict (b := ['>']) (rest := []) (by simpa using hl) (by simp))]
    exact ⟨[stopTok (curEnv st) q as], by simp, by simp [btoks, startTok, stopTok, envOf, curEnv]⟩
  | empty q as tail =>
    simp only [STree.ok, Bool.and_eq_true] at hok
    obtain ⟨⟨hq, has⟩, ht⟩ := hok
    have hr : render (.empty q as tail) = ('<' :: (renderQ q ++ (renderAttrs as ++ (tail ++ ['/'])))) ++ ['>'] := by
      simp [render]
    rw [hr] at h
    obtain ⟨hb, _⟩ := List.append_inj' h rfl
    subst hb
    have hl := lexStep_selfClose q (as.map SAttr.raw) tail [] ht
    rw [tok_open q as tail st '/' [] hq has ht (by decide),
      complete_nil_of_not_ok _ _ _ (not_ok_strict (b := ['>']) (rest := []) (by simpa using hl) (by simp))]
    exact ⟨_, by simp, rfl⟩
  | text ps | cdata s | comment s | pi t sep d =>
    have hl := lexStep_leaf rfl hok ['<'] (fun _ => ⟨[], rfl⟩)
    rw [h, List.append_assoc] at hl
    rw [complete_nil_of_not_ok _ _ _ (not_ok_strict hl (by simp))]
    exact ⟨_, by simp, rfl⟩

theorem cut_tree (t : STree) (st : Stack) (a b : List Char) (hok : t.ok = true) (h : render t = a ++ b) (hb : b ≠ []) :
    ∃ ys, ys ≠ [] ∧ btoks (curEnv st) t = (tokenizeFrom .content st a).complete ++ ys := by
  have hbl := List.dropLast_concat_getLast hb
  have h' : render t = (a ++ b.dropLast) ++ [b.getLast hb] := by
    rw [List.append_assoc, hbl]; exact h
  obtain ⟨ys, hys, he⟩ := cut_last t st _ _ hok h'
  obtain ⟨zs, hz⟩ := complete_mono .content st a b.dropLast
  refine ⟨zs ++ ys, by simp [hys], ?_⟩
  rw [he, ← hz, List.append_assoc]

theorem okL_split : ∀ (pre : List STree) (t : STree) (post : List STree), okL (pre ++ t :: post) = true →
    okL pre = true ∧ t.ok = true ∧ (lastIsText pre = true → t.isText = false) := by
  intro pre
  induction pre with
  | nil =>
    intro t post h
    refine ⟨rfl, ?_, by simp [lastIsText]⟩
    cases post with
    | nil => simpa [okL] using h
    | cons u r => simp only [List.nil_append, okL, Bool.and_eq_true] at h; exact h.1.1
  | cons x xs ih =>
    intro t post h
    cases xs with
    | nil =>
      simp only [List.cons_append, List.nil_append, okL, Bool.and_eq_true, Bool.not_eq_true'] at h
      obtain ⟨⟨hx, hadj⟩, hrest⟩ := h
      have := ih t post (by simpa using hrest)
      refine ⟨by simpa [okL] using hx, this.2.1, ?_⟩
      intro hl
      have hxt : x.isText = true := by simpa [lastIsText] using hl
      simpa [hxt] using hadj
    | cons y ys =>
      simp only [List.cons_append, okL, Bool.and_eq_true, Bool.not_eq_true'] at h
      obtain ⟨⟨hx, hadj⟩, hrest⟩ := h
      have := ih t post (by simpa using hrest)
      refine ⟨by simp [okL, hx, hadj, this.1], this.2.1, ?_⟩
      intro hl
      exact this.2.2 (by simpa [lastIsText] using hl)

theorem startsLt_prefix (t : STree) (a b : List Char) (ht : t.isText = false) (h : render t = a ++ b) (ha : a ≠ []) :
    StartsLt a := by
  obtain ⟨r, hr⟩ := startsLt_of_nonText t [] ht
  simp only [List.append_nil] at hr
  rw [hr] at h
  cases a with
  | nil => exact absurd rfl ha
  | cons x xs =>
    simp only [List.cons_append, List.cons.injEq] at h
    exact ⟨xs, by rw [← h.1]⟩

/-- **cut inside a forest**: all trees before the cut deliver their tokens, the tree that is cut delivers a proper
prefix of its tokens (character data that is cut, or ends exactly at the cut, delivers nothing complete).
`hb`: the cut lies strictly inside `t`, or `t` is character data that ends at the cut, where no `<` has completed it yet.
`hpre`: if character data stands before `t`, the cut has passed the first character of `t`, the `<` that completes it. -/
theorem cut_forest (pre : List STree) (t : STree) (post : List STree) (st : Stack) (a b : List Char)
    (hok : okL (pre ++ t :: post) = true) (h : render t = a ++ b) (hb : b ≠ [] ∨ t.isText = true)
    (hpre : lastIsText pre = true → a ≠ []) :
    ∃ front ys, ys ≠ [] ∧ btoks (curEnv st) t = front ++ ys ∧
      (tokenizeFrom .content st (renderL pre ++ a)).complete = btoksL (curEnv st) pre ++ front := by
  obtain ⟨hokpre, hokt, hadj⟩ := okL_split pre t post hok
  have hlt : lastIsText pre = true → StartsLt a := fun hl => startsLt_prefix t a b (hadj hl) h (hpre hl)
  rw [rt_list pre st a hokpre hlt, complete_pre]
  by_cases hbe : b = []
  · -- the cut falls exactly after character data
    have htx : t.isText = true := hb.resolve_left (fun hb => hb hbe)
    cases t with
    | text ps =>
      subst hbe
      simp only [STree.ok, Bool.and_eq_true, Bool.not_eq_true'] at hokt
      simp only [render, List.append_nil] at h
      refine ⟨[], btoks (curEnv st) (.text ps), by simp [btoks], by simp, ?_⟩
      have : (tokenizeFrom .content st a).complete = [] := by
        rw [← h]
        apply complete_nil_of_not_ok
        intro v r hl
        simp [lexStep_text_eof ps hokt.1 hokt.2] at hl
      rw [this]
    | _ => simp [STree.isText] at htx
  · obtain ⟨ys, hys, he⟩ := cut_tree t st a b hokt h hbe
    exact ⟨_, ys, hys, he, rfl⟩

end XmppVerif.Proofs.C02Bytes
