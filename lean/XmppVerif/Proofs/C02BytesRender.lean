import XmppVerif.Proofs.C02BytesLoop
import XmppVerif.Spec.C02Bytes
/-
What each scanner, and then one lexical step, returns on a rendered fragment followed by anything: the lemmas behind
the round-trip theorem of Props/C02Bytes.
-/
namespace XmppVerif.Proofs.C02Bytes
open XmppVerif.Model.C02Bytes XmppVerif.Spec.C02Bytes

theorem nameByte_lt (c : Char) (h : isNameByte c = true) : c.toNat < 128 := by
  have le (d : Char) (hcd : c ≤ d) (hd : d.toNat < 128) : c.toNat < 128 := Nat.lt_of_le_of_lt hcd hd
  simp only [isNameByte, Bool.or_eq_true, Bool.and_eq_true, decide_eq_true_eq] at h
  rcases h with (((((( ⟨_, h⟩ | ⟨_, h⟩) | ⟨_, h⟩) | h) | h) | h) | h)
  · exact le 'Z' h (by decide)
  · exact le 'z' h (by decide)
  · exact le '9' h (by decide)
  all_goals (subst h; decide)

theorem nameByte_nameChar (c : Char) (h : isNameByte c = true) : isNameChar c = true := by
  simp [isNameChar, h]

theorem nameStart_nameByte (c : Char) (h : isNameStart c = true) : isNameByte c = true := by
  simp only [isNameStart, Bool.or_eq_true] at h
  rcases h with ((h | h) | h) | h
  all_goals simp [isNameByte, h]

theorem ncByte_nameByte (c : Char) (h : isNcByte c = true) : isNameByte c = true ∧ c ≠ ':' := by
  simpa [isNcByte] using h

theorem ncStart_nameStart (c : Char) (h : isNcStart c = true) : isNameStart c = true ∧ c ≠ ':' := by
  simpa [isNcStart] using h

theorem nameStart_not_special (c : Char) (h : isNameStart c = true) :
    c ≠ '/' ∧ c ≠ '?' ∧ c ≠ '!' ∧ c ≠ '>' ∧ c ≠ '<' ∧ c ≠ '=' ∧ isSpace c = false := by
  refine ⟨?_, ?_, ?_, ?_, ?_, ?_, ?_⟩
  all_goals (try (intro e; subst e; revert h; decide))
  cases hs : isSpace c with
  | false => rfl
  | true =>
    simp only [isSpace, Bool.or_eq_true, decide_eq_true_eq] at hs
    rcases hs with ((e | e) | e) | e <;> (subst e; revert h; decide)

/-- `x` is not empty and does not begin with a name character (resp. a blank): what ends a name (resp. white space) -/
def NoName (x : List Char) : Prop := ∃ c r, x = c :: r ∧ isNameChar c = false
def NoSpace (x : List Char) : Prop := ∃ c r, x = c :: r ∧ isSpace c = false

theorem spanName_render (n x : List Char) (hn : n.all isNameChar = true) (hx : NoName x) : spanName (n ++ x) = .ok n x := by
  obtain ⟨c, rest, rfl, hc⟩ := hx
  unfold spanName
  induction n with
  | nil => simp [scan, hc]
  | cons y ys ih =>
    simp only [List.all_cons, Bool.and_eq_true] at hn
    simp only [List.cons_append, scan, hn.1, if_true, ih hn.2, R.cons]

theorem classify_good (c : Char) (r : List Char) (h1 : isNameStart c = true) (h2 : (c :: r).all isNameByte = true) :
    classifyName (c :: r) = .good := by
  have hx : ∀ x ∈ c :: r, x.toNat < 128 := fun x hx => nameByte_lt x (List.all_eq_true.mp h2 x hx)
  have ha : (c :: r).any (fun x => !isAscii x && !isBad x) = false := by
    rw [List.any_eq_false]
    intro x hx'
    simp [isAscii, hx x hx']
  have hb : (c :: r).any isBad = false := by
    rw [List.any_eq_false]
    intro x hx'
    have := hx x hx'
    simp [isBad]
    omega
  simp only [classifyName, ha, hb, h1]
  simp

theorem cutColon_none (s : List Char) (h : ':' ∉ s) : cutColon s = (s, none) := by
  induction s with
  | nil => rfl
  | cons c r ih =>
    have hc : c ≠ ':' := fun e => h (by simp [e])
    have hr : ':' ∉ r := fun e => h (by simp [e])
    simp [cutColon, hc, ih hr]

theorem cutColon_colon (p l : List Char) (h : ':' ∉ p) : cutColon (p ++ ':' :: l) = (p, some l) := by
  induction p with
  | nil => simp [cutColon]
  | cons c r ih =>
    have hc : c ≠ ':' := fun e => h (by simp [e])
    have hr : ':' ∉ r := fun e => h (by simp [e])
    simp [cutColon, hc, ih hr]

theorem ncOk_name (s : List Char) (h : ncOk s = true) :
    (∃ c r, s = c :: r ∧ isNameStart c = true) ∧ s.all isNameByte = true ∧ ':' ∉ s := by
  cases s with
  | nil => simp [ncOk] at h
  | cons c r =>
    simp only [ncOk, Bool.and_eq_true, List.all_eq_true] at h
    obtain ⟨hs, hcol⟩ := ncStart_nameStart c h.1
    refine ⟨⟨c, r, rfl, hs⟩, ?_, ?_⟩
    · simp only [List.all_cons, Bool.and_eq_true, List.all_eq_true]
      exact ⟨nameStart_nameByte c hs, fun x hx => (ncByte_nameByte x (h.2 x hx)).1⟩
    · intro hm
      rcases List.mem_cons.mp hm with e | e
      · exact hcol e.symm
      · exact (ncByte_nameByte _ (h.2 _ e)).2 rfl

theorem renderQ_name (q : QName) (h : qnameOk q = true) :
    (∃ c r, renderQ q = c :: r ∧ isNameStart c = true) ∧ (renderQ q).all isNameByte = true ∧
      splitName (renderQ q) = some q := by
  obtain ⟨p, l⟩ := q
  simp only [qnameOk, Bool.and_eq_true, Bool.or_eq_true, List.isEmpty_iff] at h
  obtain ⟨hp, hl⟩ := h
  obtain ⟨⟨cl, rl, el, hcl⟩, hlb, hlc⟩ := ncOk_name l hl
  rcases hp with hp | hp
  · subst hp
    simp only [renderQ, List.isEmpty_nil, if_true]
    exact ⟨⟨cl, rl, el, hcl⟩, hlb, by simp [splitName, List.count_eq_zero.mpr hlc, cutColon_none l hlc]⟩
  · obtain ⟨⟨c, r, e, hc⟩, hpb, hpc⟩ := ncOk_name p hp
    have hcount : (p ++ ':' :: l).count ':' = 1 := by
      simp [List.count_append, List.count_eq_zero.mpr hpc, List.count_eq_zero.mpr hlc]
    have hsplit : splitName (p ++ ':' :: l) = some ⟨p, l⟩ := by
      have hpne : p ≠ [] := by simp [e]
      have hlne : l ≠ [] := by simp [el]
      simp only [splitName, hcount, cutColon_colon p l hpc]
      simp [hpne, hlne]
    have hpe : p.isEmpty = false := by simp [e]
    simp only [renderQ, hpe, Bool.false_eq_true, if_false]
    refine ⟨⟨c, r ++ ':' :: l, by simp [e], hc⟩, ?_, hsplit⟩
    simp only [List.all_append, List.all_cons, Bool.and_eq_true]
    exact ⟨hpb, by decide, hlb⟩

theorem scanName_ascii (s x : List Char) (hs : ∃ c r, s = c :: r ∧ isNameStart c = true) (hb : s.all isNameByte = true)
    (hx : NoName x) : scanName (s ++ x) = .ok s x := by
  obtain ⟨c, r, e, hc⟩ := hs
  subst e
  have hall : (c :: r).all isNameChar = true := by
    rw [List.all_eq_true] at hb ⊢
    exact fun y hy => nameByte_nameChar y (hb y hy)
  simp only [scanName, spanName_render _ x hall hx, R.bind, classify_good c r hc hb]

theorem scanQName_render (q : QName) (x : List Char) (h : qnameOk q = true) (hx : NoName x) :
    scanQName (renderQ q ++ x) = .ok q x := by
  obtain ⟨hs, hb, hsplit⟩ := renderQ_name q h
  simp only [scanQName, scanName_ascii _ x hs hb hx, R.bind, hsplit]

theorem scanName_render (n x : List Char) (h : ncOk n = true) (hx : NoName x) : scanName (n ++ x) = .ok n x :=
  scanName_ascii n x (ncOk_name n h).1 (ncOk_name n h).2.1 hx

theorem skipSpace_render (w x : List Char) (hw : wsOk w = true) (hx : NoSpace x) : skipSpace (w ++ x) = .ok [] x := by
  obtain ⟨c, rest, rfl, hc⟩ := hx
  unfold skipSpace
  induction w with
  | nil => simp [scan, hc]
  | cons y ys ih =>
    simp only [wsOk, List.all_cons, Bool.and_eq_true] at hw
    have : wsOk ys = true := hw.2
    simp only [List.cons_append, scan, hw.1, if_true, ih this]

def prepend : List Char → R (List Char) → R (List Char)
  | [], x => x
  | c :: cs, x => R.cons c (prepend cs x)

theorem prepend_ok (l v r : List Char) : prepend l (.ok v r) = .ok (l ++ v) r := by
  induction l with
  | nil => rfl
  | cons c cs ih => simp [prepend, ih, R.cons]

theorem prepend_okEof (l v : List Char) : prepend l (.okEof v) = .okEof (l ++ v) := by
  induction l with
  | nil => rfl
  | cons c cs ih => simp [prepend, ih, R.cons]

theorem digit_not_special (hex : Bool) (c : Char) (d : Nat) (h : digitVal hex c = some d) : c ≠ ';' ∧ c ≠ 'x' := by
  constructor
  all_goals
    intro e
    subst e
    cases hex <;> simp [digitVal] at h

theorem step_amp (q : Option Char) (hq : q ≠ some '&') (p0 p1 : Char) (r : List Char) :
    scanText q false (.plain p0 p1) ('&' :: r) = scanText q false .amp r := by
  have hq' : ¬ (q = some '&') := hq
  simp [scanText, scan, tstep, hq']

theorem step_hash (q : Option Char) (r : List Char) : scanText q false .amp ('#' :: r) = scanText q false .hash r := by
  simp [scanText, scan, tstep]

theorem step_digit (q : Option Char) (hex any : Bool) (n : Nat) (d : Char) (dv : Nat) (r : List Char)
    (h : digitVal hex d = some dv) :
    scanText q false (.num hex any n) (d :: r) = scanText q false (.num hex true (n * base hex + dv)) r := by
  have hne := (digit_not_special hex d dv h).1
  simp [scanText, scan, tstep, hne, h, base]

theorem step_semi (q : Option Char) (hex : Bool) (n : Nat) (r : List Char) (h : n < 0x10FF00) :
    scanText q false (.num hex true n) (';' :: r) = R.cons (runeOf n) (scanText q false (.plain nul nul) r) := by
  -- the bounds 0x10FFFF and 0x10FF00 of `tstep`, in the decimal form `simp` gives them
  have h1 : n ≤ 1114111 := by omega
  have h2 : ¬ (1113856 ≤ n) := by omega
  simp [scanText, scan, tstep, h1, h2]

theorem scan_digits (q : Option Char) (hex : Bool) (rest : List Char) : ∀ (ds : List Char) (any : Bool) (n : Nat),
    ds.all (fun c => (digitVal hex c).isSome) = true →
    scanText q false (.num hex any n) (ds ++ ';' :: rest) =
      scanText q false (.num hex (any || !ds.isEmpty) (numFrom hex n ds)) (';' :: rest) := by
  intro ds
  induction ds with
  | nil => intro any n _; simp [numFrom]
  | cons c cs ih =>
    intro any n h
    simp only [List.all_cons, Bool.and_eq_true] at h
    obtain ⟨d, hd⟩ := Option.isSome_iff_exists.mp h.1
    rw [List.cons_append, step_digit q hex any n c d _ hd, ih true (n * base hex + d) h.2]
    simp [numFrom, hd]

/-- the digits of a character reference, after `&#`: hexadecimal ones follow an `x`, the first decimal one is read
in the state `hash` itself -/
theorem scan_num (q : Option Char) (hex : Bool) (ds rest : List Char) (hne : ds.isEmpty = false)
    (hds : ds.all (fun c => (digitVal hex c).isSome) = true) :
    scanText q false .hash ((if hex then ['x'] else []) ++ (ds ++ ';' :: rest)) =
      scanText q false (.num hex true (numFrom hex 0 ds)) (';' :: rest) := by
  cases hex with
  | true =>
    have hx : scanText q false .hash ('x' :: (ds ++ ';' :: rest)) = scanText q false (.num true false 0) (ds ++ ';' :: rest) := by
      simp [scanText, scan, tstep]
    simp only [if_true, List.cons_append, List.nil_append]
    rw [hx, scan_digits q true _ ds false 0 hds, hne]
    rfl
  | false =>
    cases ds with
    | nil => simp at hne
    | cons d ds =>
      simp only [List.all_cons, Bool.and_eq_true] at hds
      obtain ⟨dv, hdv⟩ := Option.isSome_iff_exists.mp hds.1
      have hd : scanText q false .hash (d :: (ds ++ ';' :: rest)) = scanText q false (.num false true dv) (ds ++ ';' :: rest) := by
        simp [scanText, scan, tstep, (digit_not_special false d dv hdv).2, hdv]
      simp only [Bool.false_eq_true, if_false, List.nil_append, List.cons_append]
      rw [hd, scan_digits q false _ ds true dv hds.2]
      simp [numFrom, hdv, base]

theorem rawOk_iff (q : Option Char) (c : Char) :
    rawOk q c = true ↔ isXmlChar c = true ∧ c ≠ '<' ∧ c ≠ '&' ∧ c ≠ '\r' ∧ q ≠ some c := by
  simp [rawOk, and_assoc]

theorem step_named (q : Option Char) (e : Ent) (r : List Char) :
    scanText q false .amp (e.name ++ ';' :: r) = R.cons e.char (scanText q false (.plain nul nul) r) := by
  cases e <;> simp [Ent.name, Ent.char, scanText, scan, tstep, isNameChar, isNameByte, entityOf]

/-- `p1 ≠ '\r'`: a line feed after a carriage return would be swallowed. `hbehind`: what the callers put behind - `<`,
the quote, the end of the input - is read the same whichever two characters the plain state remembers. -/
theorem scanText_pieces (q : Option Char) (hq : q ≠ some '&') {rest : List Char} {x : R (List Char)}
    (hbehind : ∀ a b, scanText q false (.plain a b) rest = x) : ∀ (ps : List Piece) (p0 p1 : Char),
    piecesOk q p0 p1 ps = true → p1 ≠ '\r' →
    scanText q false (.plain p0 p1) (renderPieces ps ++ rest) = prepend (chars ps) x := by
  intro ps
  induction ps with
  | nil => intro p0 p1 _ _; exact hbehind p0 p1
  | cons p ps ih =>
    intro p0 p1 hok hp1
    cases p with
    | raw c =>
      simp only [piecesOk, Bool.and_eq_true, Bool.not_eq_true'] at hok
      obtain ⟨⟨hraw, hcd⟩, hrest⟩ := hok
      obtain ⟨hx, hlt, hamp, hcr, hqc⟩ := (rawOk_iff q c).mp hraw
      have hqc' : ¬ (q = some c) := hqc
      have h := ih p1 c hrest hcr
      have hstep : tstep q false (.plain p0 p1) c = .put c (.plain p1 c) := by
        simp [tstep, hcd, hlt, hamp, hcr, hqc', hp1]
      simp only [scanText] at h ⊢
      simp only [renderPieces, Piece.render, List.cons_append, List.nil_append, scan, hstep, h]
      rfl
    | named e =>
      simp only [piecesOk, Bool.and_eq_true] at hok
      simp only [renderPieces, Piece.render, List.cons_append, List.nil_append, List.append_assoc]
      rw [step_amp q hq, step_named, ih nul nul hok.2 (by decide)]
      rfl
    | num hex ds =>
      simp only [piecesOk, Piece.ok, Bool.and_eq_true, Bool.not_eq_true', decide_eq_true_eq] at hok
      obtain ⟨⟨⟨⟨hne, hds⟩, hlt⟩, hx⟩, hrest⟩ := hok
      simp only [renderPieces, Piece.render, List.cons_append, List.nil_append, List.append_assoc]
      rw [step_amp q hq, step_hash, scan_num q hex ds _ hne hds, step_semi q hex _ _ hlt, ih nul nul hrest (by decide)]
      rfl

theorem ent_xml (e : Ent) : isXmlChar e.char = true := by cases e <;> decide

theorem chars_ok (q : Option Char) : ∀ (ps : List Piece) (p0 p1 : Char), piecesOk q p0 p1 ps = true → textOk (chars ps) = true := by
  intro ps
  induction ps with
  | nil => intro _ _ _; rfl
  | cons p ps ih =>
    intro p0 p1 h
    have hp : isXmlChar p.char = true ∧ ∃ a b, piecesOk q a b ps = true := by
      cases p with
      | raw c =>
        simp only [piecesOk, Bool.and_eq_true] at h
        exact ⟨((rawOk_iff q c).mp h.1.1).1, _, _, h.2⟩
      | named e =>
        simp only [piecesOk, Bool.and_eq_true] at h
        exact ⟨ent_xml e, _, _, h.2⟩
      | num hex ds =>
        simp only [piecesOk, Piece.ok, Bool.and_eq_true] at h
        exact ⟨h.1.2, _, _, h.2⟩
    obtain ⟨hc, a, b, hps⟩ := hp
    have := ih a b hps
    simp only [textOk, chars, List.map_cons, List.all_cons, Bool.and_eq_true] at this ⊢
    exact ⟨hc, this⟩

theorem text_stop_lt (a b : Char) (r : List Char) : scanText none false (.plain a b) ('<' :: r) = .ok [] ('<' :: r) := by
  simp [scanText, scan, tstep]

theorem text_stop_quote (qc a b : Char) (r : List Char) (hq : qc = '"' ∨ qc = '\'') :
    scanText (some qc) false (.plain a b) (qc :: r) = .ok [] r := by
  rcases hq with e | e <;> (subst e; simp [scanText, scan, tstep])

theorem text_eof (a b : Char) : scanText none false (.plain a b) [] = .okEof [] := by
  simp [scanText, scan, TSt.isPlain]

theorem space_not_name (c : Char) (h : isSpace c = true) : isNameChar c = false := by
  simp only [isSpace, Bool.or_eq_true, decide_eq_true_eq] at h
  rcases h with ((e | e) | e) | e <;> (subst e; decide)

theorem noName_nonempty_ws (w x : List Char) (hne : w.isEmpty = false) (hw : wsOk w = true) : NoName (w ++ x) := by
  cases w with
  | nil => simp at hne
  | cons d ds =>
    simp only [wsOk, List.all_cons, Bool.and_eq_true] at hw
    exact ⟨d, ds ++ x, rfl, space_not_name d hw.1⟩

theorem noName_ws_cons (w : List Char) (c : Char) (x : List Char) (hw : wsOk w = true) (hc : isNameChar c = false) :
    NoName (w ++ c :: x) := by
  cases hne : w.isEmpty with
  | true =>
    rw [List.isEmpty_iff.mp hne]
    exact ⟨c, x, rfl, hc⟩
  | false => exact noName_nonempty_ws w _ hne hw

theorem noSpace_renderQ (q : QName) (x : List Char) (h : qnameOk q = true) : NoSpace (renderQ q ++ x) := by
  obtain ⟨⟨c, r, e, hc⟩, _, _⟩ := renderQ_name q h
  obtain ⟨_, _, _, _, _, _, hs⟩ := nameStart_not_special c hc
  exact ⟨c, r ++ x, by simp [e], hs⟩

theorem quote_plain (a : SAttr) :
    (a.quote = '"' ∨ a.quote = '\'') ∧ some a.quote ≠ some '&' ∧ isSpace a.quote = false := by
  unfold SAttr.quote
  cases a.dq <;> decide

theorem sattrOk_iff (a : SAttr) :
    a.ok = true ↔ a.pre.isEmpty = false ∧ wsOk a.pre = true ∧ qnameOk a.name = true ∧ wsOk a.eq1 = true ∧
      wsOk a.eq2 = true ∧ piecesOk (some a.quote) nul nul a.val = true := by
  simp [SAttr.ok, and_assoc]

theorem lexStep_attr (q : QName) (as : List RawAttr) (a : SAttr) (rest : List Char) (h : a.ok = true) :
    lexStep (.tag q as) (a.render ++ rest) = .ok (.tag q (as ++ [a.raw]), .none) rest := by
  obtain ⟨_, hpre, hname, heq1, heq2, hval⟩ := (sattrOk_iff a).mp h
  obtain ⟨⟨c, r, e, hc⟩, _, _⟩ := renderQ_name a.name hname
  obtain ⟨hq, hqa, hqs⟩ := quote_plain a
  have hqb : (a.quote = '"' || a.quote = '\'') = true := by simpa using hq
  obtain ⟨h1, _, _, h4, _⟩ := nameStart_not_special c hc
  have hp := scanText_pieces (some a.quote) hqa (fun b0 b1 => text_stop_quote a.quote b0 b1 rest hq) a.val nul nul hval
    (by decide)
  simp only [lexStep, lexTag, SAttr.render, List.append_assoc, List.cons_append, List.nil_append]
  rw [skipSpace_render a.pre _ hpre (noSpace_renderQ a.name _ hname)]
  simp only [R.bind]
  -- the first character of the name selects `lexAttr`, which reads the name again
  rw [e, List.cons_append, lexTagBody_cons, if_neg h1, if_neg h4, ← List.cons_append, ← e]
  unfold lexAttr
  rw [scanQName_render a.name _ hname (noName_ws_cons a.eq1 '=' _ heq1 (by decide))]
  simp only [R.bind]
  rw [skipSpace_render a.eq1 _ heq1 ⟨'=', _, rfl, by decide⟩]
  simp only [nextIf, decide_true, if_true]
  rw [skipSpace_render a.eq2 _ heq2 ⟨a.quote, _, rfl, hqs⟩]
  simp only [hqb, if_true]
  rw [hp, prepend_ok]
  simp only [List.append_nil, checkedText, chars_ok _ a.val nul nul hval, if_true, SAttr.raw]

theorem lexStep_tagEnd (q : QName) (as : List RawAttr) (tail rest : List Char) (h : wsOk tail = true) :
    lexStep (.tag q as) (tail ++ '>' :: rest) = .ok (.content, .startTag q as false) rest := by
  simp only [lexStep, lexTag]
  rw [skipSpace_render tail _ h ⟨'>', rest, rfl, by decide⟩]
  simp [R.bind, lexTagBody]

theorem lexStep_selfClose (q : QName) (as : List RawAttr) (tail rest : List Char) (h : wsOk tail = true) :
    lexStep (.tag q as) (tail ++ '/' :: '>' :: rest) = .ok (.content, .startTag q as true) rest := by
  simp only [lexStep, lexTag]
  rw [skipSpace_render tail _ h ⟨'/', _, rfl, by decide⟩]
  simp [R.bind, lexTagBody, nextIf]

theorem lexStep_tagName (q : QName) (x : List Char) (h : qnameOk q = true) (hx : NoName x) :
    lexStep .content ('<' :: (renderQ q ++ x)) = .ok (.tag q [], .none) x := by
  obtain ⟨⟨c, r, e, hc⟩, _, _⟩ := renderQ_name q h
  obtain ⟨h1, h2, h3, _⟩ := nameStart_not_special c hc
  simp only [lexStep, lexContent, if_true]
  rw [e, List.cons_append, lexMarkup_cons, if_neg h1, if_neg h2, if_neg h3, ← List.cons_append, ← e,
    scanQName_render q x h hx]
  rfl

theorem lexStep_endTag (q : QName) (etail rest : List Char) (h : qnameOk q = true) (hw : wsOk etail = true) :
    lexStep .content ('<' :: '/' :: (renderQ q ++ (etail ++ '>' :: rest))) = .ok (.content, .endTag q) rest := by
  simp only [lexStep, lexContent, if_true, lexMarkup, lexEndTag]
  rw [scanQName_render q _ h (noName_ws_cons etail '>' rest hw (by decide))]
  simp only [R.bind]
  rw [skipSpace_render etail _ hw ⟨'>', rest, rfl, by decide⟩]
  simp [nextIf]

theorem lexStep_pieces (ps : List Piece) (rest : List Char) (hne : ps.isEmpty = false) (h : piecesOk none nul nul ps = true) :
    lexStep .content (renderPieces ps ++ rest) = lexText (renderPieces ps ++ rest) := by
  obtain ⟨c, r, e, hc⟩ : ∃ c r, renderPieces ps ++ rest = c :: r ∧ c ≠ '<' := by
    cases ps with
    | nil => simp at hne
    | cons p ps' =>
      cases p with
      | raw c =>
        simp only [piecesOk, Bool.and_eq_true] at h
        exact ⟨c, _, rfl, ((rawOk_iff none c).mp h.1.1).2.1⟩
      | named e => exact ⟨'&', _, rfl, by decide⟩
      | num hex ds => exact ⟨'&', _, rfl, by decide⟩
  rw [e]
  simp only [lexStep, lexContent, hc, if_false]

theorem lexStep_text_eof (ps : List Piece) (hne : ps.isEmpty = false) (h : piecesOk none nul nul ps = true) :
    lexStep .content (renderPieces ps) = .okEof (.content, .text (chars ps)) := by
  have hp := scanText_pieces none (by decide) text_eof ps nul nul h (by decide)
  have := lexStep_pieces ps [] hne h
  rw [lexText, hp, prepend_okEof] at this
  simpa [checkedText, chars_ok none ps nul nul h] using this

theorem dropLast2 (s : List Char) (a b : Char) : (s ++ [a, b]).dropLast.dropLast = s := by
  have : s ++ [a, b] = (s ++ [a]) ++ [b] := by simp
  rw [this, List.dropLast_concat, List.dropLast_concat]

theorem cdata_body (rest : List Char) : ∀ (s : List Char) (p0 p1 : Char), cdataOk p0 p1 s = true → p1 ≠ '\r' →
    scanText none true (.plain p0 p1) (s ++ ']' :: ']' :: '>' :: rest) = .ok (s ++ [']', ']']) rest := by
  unfold scanText
  intro s
  induction s with
  | nil =>
    intro p0 p1 _ hp1
    simp [scan, tstep, hp1, R.cons]
  | cons c cs ih =>
    intro p0 p1 h hp1
    simp only [cdataOk, Bool.and_eq_true, bne_iff_ne, ne_eq, Bool.not_eq_true'] at h
    obtain ⟨⟨⟨hx, hcr⟩, hcd⟩, hrest⟩ := h
    have hstep : tstep none true (.plain p0 p1) c = .put c (.plain p1 c) := by simp [tstep, hcd, hcr, hp1]
    simp only [List.cons_append, scan, hstep, ih p1 c hrest hcr, R.cons]

theorem cdata_textOk : ∀ (s : List Char) (p0 p1 : Char), cdataOk p0 p1 s = true → textOk s = true := by
  intro s
  induction s with
  | nil => intro _ _ _; rfl
  | cons c cs ih =>
    intro p0 p1 h
    simp only [cdataOk, Bool.and_eq_true] at h
    simp only [textOk, List.all_cons, Bool.and_eq_true]
    exact ⟨h.1.1.1, ih _ _ h.2⟩

theorem comment_body (rest : List Char) : ∀ (s : List Char) (k : Nat), k < 2 → commentOk k s = true →
    scanComment k (s ++ '-' :: '-' :: '>' :: rest) = .ok (s ++ ['-', '-']) rest := by
  unfold scanComment
  intro s
  induction s with
  | nil =>
    intro k _ h
    simp only [commentOk, decide_eq_true_eq] at h
    subst h
    simp [scan, R.cons]
  | cons c cs ih =>
    intro k hk h
    have hk2 : k ≠ 2 := by omega
    simp only [commentOk] at h
    simp only [List.cons_append, scan, hk2, if_false]
    split at h
    · rename_i hc
      simp only [Bool.and_eq_true, decide_eq_true_eq] at h
      obtain ⟨h0, h1⟩ := h
      subst h0
      simp [hc, ih 1 (by omega) h1, R.cons]
    · rename_i hc
      simp [hc, ih 0 (by omega) h, R.cons]

theorem pi_body (rest : List Char) : ∀ (d : List Char) (qm : Bool), piDataOk qm d = true →
    scanPI qm (d ++ '?' :: '>' :: rest) = .ok (d ++ ['?']) rest := by
  unfold scanPI
  intro d
  induction d with
  | nil => intro qm _; simp [scan, R.cons]
  | cons c cs ih =>
    intro qm h
    simp only [piDataOk, Bool.and_eq_true, Bool.not_eq_true'] at h
    simp only [List.cons_append, scan, h.1, Bool.false_eq_true, if_false, ih _ h.2, R.cons]

/-- what a tree that is a single lexeme makes the lexer deliver -/
def leafEv : STree → Option Ev
  | .text ps => some (.text (chars ps))
  | .cdata s => some (.text s)
  | .comment s => some (.comment s)
  | .pi t _ d => some (.pi t d)
  | _ => none

/-- `hrest`: character data is one lexical step only up to the `<` that ends it -/
theorem lexStep_leaf {t : STree} {ev : Ev} (hev : leafEv t = some ev) (hok : t.ok = true) (rest : List Char)
    (hrest : t.isText = true → StartsLt rest) : lexStep .content (render t ++ rest) = .ok (.content, ev) rest := by
  cases t with
  | elem q as tail kids etail => simp [leafEv] at hev
  | empty q as tail => simp [leafEv] at hev
  | text ps =>
    injection hev with hev
    simp only [STree.ok, Bool.and_eq_true, Bool.not_eq_true'] at hok
    obtain ⟨r, hr⟩ := hrest rfl
    subst hr
    rw [render, lexStep_pieces ps _ hok.1 hok.2, lexText,
      scanText_pieces none (by decide) (fun a b => text_stop_lt a b r) ps nul nul hok.2 (by decide), prepend_ok]
    simp [checkedText, chars_ok none ps nul nul hok.2, hev]
  | cdata s =>
    injection hev with hev
    simp only [STree.ok] at hok
    simp only [render, lexStep, List.cons_append, List.nil_append, List.append_assoc, lexContent, if_true, lexMarkup,
      lexBang, lexCData, expectLit, R.bind]
    rw [cdata_body rest s nul nul hok (by decide)]
    simp [checkedText, cdata_textOk s nul nul hok, hev]
  | comment s =>
    injection hev with hev
    simp only [STree.ok] at hok
    simp only [render, lexStep, List.cons_append, List.nil_append, List.append_assoc, lexContent, if_true, lexMarkup,
      lexBang, nextIf, decide_true, R.bind, lexComment]
    rw [comment_body rest s 0 (by omega) hok]
    simp [hev]
  | pi t sep d =>
    injection hev with hev
    simp only [STree.ok, piOk, Bool.and_eq_true, bne_iff_ne, ne_eq] at hok
    obtain ⟨⟨⟨⟨ht, hxml⟩, hsep⟩, hd0⟩, hdata⟩ := hok
    -- data, if any, is set off from the target by white space and does not begin with white space
    obtain ⟨hnn, hns⟩ : NoName (sep ++ (d ++ '?' :: '>' :: rest)) ∧ NoSpace (d ++ '?' :: '>' :: rest) := by
      cases d with
      | nil => exact ⟨noName_ws_cons sep '?' _ hsep (by decide), '?', _, rfl, by decide⟩
      | cons c cs =>
        simp only [Bool.and_eq_true, Bool.not_eq_true'] at hd0
        exact ⟨noName_nonempty_ws sep _ hd0.1 hsep, c, _, rfl, hd0.2⟩
    simp only [render, lexStep, List.cons_append, List.nil_append, List.append_assoc, lexContent, if_true, lexMarkup, lexPI]
    rw [scanName_render t _ ht hnn]
    simp only [R.bind]
    rw [skipSpace_render sep _ hsep hns]
    simp only
    rw [pi_body rest d false hdata]
    -- the target is not `xml`, so the checks on an XML declaration do not apply
    have hx : decide (t = ['x', 'm', 'l']) = false := by simpa using hxml
    simp [hx, ← hev]

end XmppVerif.Proofs.C02Bytes
