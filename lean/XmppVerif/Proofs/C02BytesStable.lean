import XmppVerif.Model.C02Bytes
/-
Every scanner of the character-level tokenizer, and hence one lexical step, is
  * stable: a result `ok v rest` obtained on an input `a` is obtained again, with `rest ++ b`, on every extension
    `a ++ b` (the decision never depends on characters that were not there), and
  * shrinking: `rest` is no longer than the input (`Good`); a scanner that reads a character first, and hence one
    lexical step, leaves strictly less (`Good1`).
The scanners are built in three ways, and there is one lemma for each: the generic `scan` (`good_scan`), sequencing
(`Good.bind`), and a choice by the first character (`Good1.of_cons`, with the lexers that choose put as equations
`*_cons` first; Proofs/C02BytesRender uses these again). Two places post-process a result and are treated where they
occur: the validity check `checkedText` (`good_checkedText`) and the chop of `]]` in `lexCData` (`good_lexCData`).
-/
namespace XmppVerif.Proofs.C02Bytes
open XmppVerif.Model.C02Bytes

theorem lexBang_cons (c : Char) (r : List Char) :
    lexBang (c :: r) =
      if c = '-' then (nextIf (· = '-') r).bind fun _ r' => lexComment r'
      else if c = '[' then lexCData r else .unsup "directive" := by
  unfold lexBang
  split <;> simp_all

theorem lexMarkup_cons (c : Char) (r : List Char) :
    lexMarkup (c :: r) =
      if c = '/' then lexEndTag r else if c = '?' then lexPI r else if c = '!' then lexBang r
      else (scanQName (c :: r)).bind fun q rest => .ok (.tag q [], .none) rest := by
  unfold lexMarkup
  split <;> simp_all

theorem lexTagBody_cons (q : QName) (as : List RawAttr) (c : Char) (r : List Char) :
    lexTagBody q as (c :: r) =
      if c = '/' then (nextIf (· = '>') r).bind fun _ rest => .ok (.content, .startTag q as true) rest
      else if c = '>' then .ok (.content, .startTag q as false) r else lexAttr q as (c :: r) := by
  unfold lexTagBody
  split <;> simp_all

def Good {α : Type} (p : List Char → R α) : Prop :=
  ∀ a v r, p a = .ok v r → r.length ≤ a.length ∧ ∀ b, p (a ++ b) = .ok v (r ++ b)

def Good1 {α : Type} (p : List Char → R α) : Prop :=
  ∀ a v r, p a = .ok v r → r.length < a.length ∧ ∀ b, p (a ++ b) = .ok v (r ++ b)

theorem Good1.good {α : Type} {p : List Char → R α} (h : Good1 p) : Good p :=
  fun a v r e => ⟨Nat.le_of_lt (h a v r e).1, (h a v r e).2⟩

theorem Good.pure {α : Type} (x : α) : Good (fun r => R.ok x r) := by
  intro a v r h
  injection h with h1 h2
  subst h1 h2
  exact ⟨Nat.le_refl _, fun _ => rfl⟩

theorem Good.fail {α : Type} {p : List Char → R α} (h : ∀ a v r, p a ≠ .ok v r) : Good p :=
  fun a v r e => absurd e (h a v r)

theorem Good.ite {α : Type} {c : Prop} [Decidable c] {p q : List Char → R α} (hp : c → Good p) (hq : ¬ c → Good q) :
    Good (fun r => if c then p r else q r) := by
  split
  · exact hp ‹_›
  · exact hq ‹_›

theorem cons_ok {c : Char} {x : R (List Char)} {v : List Char} {r : List Char} (h : R.cons c x = .ok v r) :
    ∃ v', x = .ok v' r ∧ v = c :: v' := by
  cases x <;> simp [R.cons] at h
  rename_i a rest
  exact ⟨a, by simp [h.2], h.1.symm⟩

theorem bind_ok {α β : Type} {x : R α} {f : α → List Char → R β} {v : β} {r : List Char}
    (h : x.bind f = .ok v r) : ∃ a r1, x = .ok a r1 ∧ f a r1 = .ok v r := by
  cases x <;> simp [R.bind] at h
  rename_i a r1
  exact ⟨a, r1, rfl, h⟩

theorem Good.bind {α β : Type} {p : List Char → R α} {f : α → List Char → R β}
    (hp : Good p) (hf : ∀ x, Good (f x)) : Good (fun cs => (p cs).bind f) := by
  intro a v r h
  obtain ⟨x, r1, h1, h2⟩ := bind_ok h
  obtain ⟨l1, s1⟩ := hp a x r1 h1
  obtain ⟨l2, s2⟩ := hf x r1 v r h2
  refine ⟨by omega, ?_⟩
  intro b
  simp only [s1 b, R.bind, s2 b]

theorem Good1.bind_left {α β : Type} {p : List Char → R α} {f : α → List Char → R β}
    (hp : Good1 p) (hf : ∀ x, Good (f x)) : Good1 (fun cs => (p cs).bind f) := by
  intro a v r h
  obtain ⟨x, r1, h1, h2⟩ := bind_ok h
  exact ⟨Nat.lt_of_le_of_lt (hf x r1 v r h2).1 (hp a x r1 h1).1, (Good.bind hp.good hf a v r h).2⟩

theorem Good1.bind_right {α β : Type} {p : List Char → R α} {f : α → List Char → R β}
    (hp : Good p) (hf : ∀ x, Good1 (f x)) : Good1 (fun cs => (p cs).bind f) := by
  intro a v r h
  obtain ⟨x, r1, h1, h2⟩ := bind_ok h
  exact ⟨Nat.lt_of_lt_of_le (hf x r1 v r h2).1 (hp a x r1 h1).1, (Good.bind hp (fun x => (hf x).good) a v r h).2⟩

theorem Good1.of_cons {α : Type} {p : List Char → R α} {f : Char → List Char → R α}
    (hnil : ∀ v r, p [] ≠ .ok v r) (hcons : ∀ c r, p (c :: r) = f c r) (hf : ∀ c, Good (f c)) : Good1 p := by
  intro a v r h
  cases a with
  | nil => exact absurd h (hnil v r)
  | cons c cs =>
    rw [hcons] at h
    obtain ⟨l, s⟩ := hf c cs v r h
    exact ⟨Nat.lt_succ_of_le l, fun b => by rw [List.cons_append, hcons]; exact s b⟩

theorem Good1.tail {α : Type} {p : List Char → R α} (hp : Good1 p) (c : Char) : Good (fun r => p (c :: r)) :=
  fun a v r h => ⟨Nat.le_of_lt_succ (hp (c :: a) v r h).1, (hp (c :: a) v r h).2⟩

theorem good_scan {σ : Type} (step : σ → Char → Act σ) (fin : σ → Bool) : ∀ st, Good (scan step fin st) := by
  intro st a
  induction a generalizing st with
  | nil => intro v r h; simp only [scan] at h; split at h <;> simp at h
  | cons c cs ih =>
    intro v r h
    cases hs : step st c with
    | go st' =>
      simp only [scan, hs] at h
      obtain ⟨l, s⟩ := ih st' v r h
      exact ⟨Nat.le_succ_of_le l, fun b => by simp only [List.cons_append, scan, hs, s b]⟩
    | put x st' =>
      simp only [scan, hs] at h
      obtain ⟨v', h1, h2⟩ := cons_ok h
      obtain ⟨l, s⟩ := ih st' v' r h1
      exact ⟨Nat.le_succ_of_le l, fun b => by simp only [List.cons_append, scan, hs, s b, R.cons, h2]⟩
    | stop | stopEat =>
      simp only [scan, hs] at h
      injection h with h1 h2
      subst h1 h2
      exact ⟨by simp, fun b => by simp only [List.cons_append, scan, hs]⟩
    | fail | unsup w => simp [scan, hs] at h

theorem scan_shrinks {σ : Type} {step : σ → Char → Act σ} {fin : σ → Bool} {st : σ} {c : Char} {cs v r : List Char}
    (hc : step st c ≠ .stop) (h : scan step fin st (c :: cs) = .ok v r) : r.length ≤ cs.length := by
  simp only [scan] at h
  split at h
  · exact (good_scan step fin _ cs v r h).1
  · obtain ⟨v', h1, _⟩ := cons_ok h
    exact (good_scan step fin _ cs v' r h1).1
  · exact absurd ‹_› hc
  · injection h with _ h2
    rw [h2]
    exact Nat.le_refl _
  · simp at h
  · simp at h

theorem good1_nextIf (p : Char → Bool) : Good1 (nextIf p) :=
  Good1.of_cons (by simp [nextIf]) (fun _ _ => rfl) (fun c => Good.ite (fun _ => Good.pure c) (fun _ => Good.fail (by simp)))

theorem good_expectLit : ∀ l, Good (expectLit l)
  | [] => Good.pure ()
  | x :: xs =>
    (Good1.of_cons (f := fun c r => if c = x then expectLit xs r else .err) (by simp [expectLit]) (fun _ _ => rfl)
      (fun _ => Good.ite (fun _ => good_expectLit xs) (fun _ => Good.fail (by simp)))).good

theorem good1_scanName : Good1 scanName := by
  have hgood : Good scanName := by
    refine Good.bind (good_scan _ _ ()) (fun s => ?_)
    cases classifyName s
    · exact Good.pure s
    · exact Good.fail (by simp)
    · exact Good.fail (by simp)
  intro a v r h
  refine ⟨?_, (hgood a v r h).2⟩
  obtain ⟨s, r1, h1, h2⟩ := bind_ok h
  cases a with
  | nil => simp [spanName, scan] at h1
  | cons c cs =>
    cases hc : isNameChar c with
    | false =>
      -- the run of name characters is empty, and `classifyName` rejects the empty name
      simp only [spanName, scan, hc] at h1
      injection h1 with e1 _
      simp [← e1, classifyName] at h2
    | true =>
      have := scan_shrinks (by simp [hc]) h1
      split at h2 <;> simp at h2
      rw [← h2.2]
      exact Nat.lt_succ_of_le this

theorem good1_scanQName : Good1 scanQName := by
  refine Good1.bind_left good1_scanName (fun s => ?_)
  cases splitName s
  · exact Good.fail (by simp)
  · exact Good.pure _

theorem checkedText_ok {plain : Bool} {x : R (List Char)} {v r} (h : checkedText plain x = .ok v r) :
    x = .ok v r ∧ textOk v = true := by
  cases x with
  | ok v' r' =>
    simp only [checkedText] at h
    split at h
    · injection h with h1 h2; subst h1 h2; exact ⟨rfl, by assumption⟩
    · simp at h
  | okEof v' =>
    simp only [checkedText] at h
    split at h
    · split at h <;> simp at h
    · simp at h
  | _ => simp [checkedText] at h

theorem good_checkedText (plain : Bool) {p : List Char → R (List Char)} (hp : Good p) :
    Good (fun cs => checkedText plain (p cs)) := by
  intro a v r h
  obtain ⟨h1, h2⟩ := checkedText_ok h
  obtain ⟨l, s⟩ := hp a v r h1
  exact ⟨l, fun b => by simp only [s b, checkedText, h2, if_true]⟩

theorem lexText_ok {a : List Char} {v : Mode × Ev} {r : List Char} (h : lexText a = .ok v r) :
    ∃ t, v = (.content, .text t) ∧ scanText none false (.plain nul nul) a = .ok t r ∧ textOk t = true := by
  unfold lexText at h
  split at h <;> simp at h
  rename_i t r' hc
  exact ⟨t, h.1.symm, by rw [← h.2]; exact checkedText_ok hc⟩

theorem good_lexText : Good lexText := by
  intro a v r h
  obtain ⟨t, hv, hs, ht⟩ := lexText_ok h
  obtain ⟨l, s⟩ := good_scan _ _ _ a t r hs
  exact ⟨l, fun b => by simp only [lexText, scanText, s b, checkedText, ht, if_true, hv]⟩

theorem tstep_plain_stop {p0 p1 c : Char} (hc : c ≠ '<') : tstep none false (.plain p0 p1) c ≠ .stop := by
  unfold tstep
  simp only [hc, decide_false, Bool.false_and, Bool.false_eq_true, if_false, reduceCtorEq]
  -- with the branch for `<` gone, the remaining ones answer `fail`, `stopEat`, `go` or `put`
  split
  · simp
  · split
    · simp
    · split
      · simp
      · split <;> simp

theorem good_lexCData : Good lexCData := by
  refine Good.bind (good_expectLit _) fun _ => Good.bind (good_checkedText false fun a v r h => ?_) fun _ => Good.pure _
  -- the `]]` of the terminator is chopped off the value, the rest is that of `scanText`
  cases hs : scanText none true (.plain nul nul) a with
  | ok v' r' =>
    simp only [hs] at h
    injection h with h1 h2
    obtain ⟨l, s⟩ := good_scan _ _ _ a v' r' hs
    exact ⟨h2 ▸ l, fun b => by simp only [scanText, s b, h1, h2]⟩
  | _ => simp [hs] at h

theorem good1_lexBang : Good1 lexBang :=
  Good1.of_cons (by simp [lexBang]) lexBang_cons fun _ =>
    Good.ite
      (fun _ =>
        Good.bind (good1_nextIf _).good fun _ =>
        Good.bind (good_scan _ _ 0) fun _ =>
        Good.pure _)
      (fun _ => Good.ite (fun _ => good_lexCData) (fun _ => Good.fail (by simp)))

theorem good_lexPI : Good lexPI :=
  Good.bind good1_scanName.good fun _ =>
  Good.bind (good_scan _ _ ()) fun _ =>
  Good.bind (good_scan _ _ false) fun _ =>
  Good.ite (fun _ => Good.fail (by simp)) (fun _ => Good.pure _)

theorem good_lexEndTag : Good lexEndTag :=
  Good.bind good1_scanQName.good fun _ =>
  Good.bind (good_scan _ _ ()) fun _ =>
  Good.bind (good1_nextIf _).good fun _ =>
  Good.pure _

theorem good1_lexMarkup : Good1 lexMarkup :=
  Good1.of_cons (by simp [lexMarkup]) lexMarkup_cons fun c =>
    Good.ite (fun _ => good_lexEndTag) fun _ =>
    Good.ite (fun _ => good_lexPI) fun _ =>
    Good.ite (fun _ => good1_lexBang.good) fun _ =>
    Good.bind (good1_scanQName.tail c) (fun _ => Good.pure _)

theorem good1_lexContent : Good1 lexContent := by
  refine Good1.of_cons (f := fun c r => if c = '<' then lexMarkup r else lexText (c :: r)) (by simp [lexContent])
    (fun _ _ => rfl) (fun c => Good.ite (fun _ => good1_lexMarkup.good) (fun hc a v r h => ?_))
  obtain ⟨t, _, hs, _⟩ := lexText_ok h
  exact ⟨scan_shrinks (tstep_plain_stop hc) hs, (good_lexText (c :: a) v r h).2⟩

theorem good1_lexAttr (q : QName) (as : List RawAttr) : Good1 (lexAttr q as) :=
  Good1.bind_left good1_scanQName fun _ =>
  Good.bind (good_scan _ _ ()) fun _ =>
  Good.bind (good1_nextIf _).good fun _ =>
  Good.bind (good_scan _ _ ()) fun _ =>
  Good.bind (good1_nextIf _).good fun _ =>
  Good.bind (good_checkedText false (good_scan _ _ _)) fun _ =>
  Good.pure _

theorem good1_lexTagBody (q : QName) (as : List RawAttr) : Good1 (lexTagBody q as) :=
  Good1.of_cons (by simp [lexTagBody]) (lexTagBody_cons q as) fun c =>
    Good.ite (fun _ => Good.bind (good1_nextIf _).good (fun _ => Good.pure _)) fun _ =>
    Good.ite (fun _ => Good.pure _) fun _ =>
    (good1_lexAttr q as).tail c

theorem good1_lexStep (m : Mode) : Good1 (lexStep m) := by
  cases m with
  | content => exact good1_lexContent
  | tag q as => exact Good1.bind_right (good_scan _ _ ()) (fun _ => good1_lexTagBody q as)

end XmppVerif.Proofs.C02Bytes
