import XmppVerif.Props.C01Esc
import XmppVerif.Spec.C01Node
namespace XmppVerif.Proofs.C01
open XmppVerif.Model.C01 XmppVerif.Spec.C01 XmppVerif.Props.C01

/- The parser keeps a stack of open elements. Under a non-empty stack the tokens of a whole element act as ONE `push`
onto the top frame, and those of a list of elements as `pushAll` (which exists to say this). -/
mutual
theorem parse_el (e : El) (r : List Tok) (f : Frame) (st : List Frame) :
    parseGo (toks e ++ r) (f :: st) = parseGo r (f.push e :: st) := by
  cases e with
  | elem n a ks =>
    have h := parse_els ks (.stop n :: r) ⟨n, a, []⟩ (f :: st)
    simp only [toks, List.cons_append, List.append_assoc, List.nil_append, parseGo]
    rw [h]
    simp [parseGo, Frame.pushAll, Frame.close, Frame.push]
  | text nl s => simp [toks, parseGo]
  | raw s => simp [toks, parseGo]
theorem parse_els (ks : List El) (r : List Tok) (f : Frame) (st : List Frame) :
    parseGo (toksL ks ++ r) (f :: st) = parseGo r (f.pushAll ks :: st) := by
  cases ks with
  | nil => simp [toksL, Frame.pushAll]
  | cons k ks =>
    have h1 := parse_el k (toksL ks ++ r) f st
    have h2 := parse_els ks r (f.push k) st
    simp only [toksL, List.append_assoc]
    rw [h1, h2]
    simp [Frame.pushAll, Frame.push]
end

theorem parse_toks (n : Name) (a : List Attr) (ks : List El) (r : List Tok) :
    parseElem (toks (.elem n a ks) ++ r) = some (.elem n a ks, r) := by
  have h := parse_els ks (.stop n :: r) ⟨n, a, []⟩ []
  simp only [parseElem, toks, List.cons_append, List.append_assoc, List.nil_append, parseGo]
  rw [h]
  simp [parseGo, Frame.pushAll, Frame.close]

/-- `Decoder.DecodeElement(&v)` on the token stream of an element: the type's decoder sees exactly that element, and
what follows in the stream is left. Every round-trip statement goes through this. -/
theorem unmarshalWith_toks {α : Type} (dec : El → Option α) (e : El) (v : α) (r : List Tok)
    (hel : ∃ n a ks, e = .elem n a ks) (h : dec e = some v) : unmarshalWith dec (toks e ++ r) = some (v, r) := by
  obtain ⟨n, a, ks, rfl⟩ := hel
  simp only [unmarshalWith, parse_toks, h, Option.map_some]

/-- The hypothesis has the shape of a round-trip theorem applied to the empty rest. -/
theorem reserialise {α β : Type} {dec : El → Option α} {ts : List Tok} {v : α} (f : α → β)
    (h : unmarshalWith dec (ts ++ []) = some (v, [])) : (unmarshalWith dec ts).map (fun p => f p.1) = some (f v) := by
  rw [List.append_nil] at h
  rw [h]
  rfl

theorem viewL_append (ctx : Str) (a b : List El) : viewL ctx (a ++ b) = viewL ctx a ++ viewL ctx b := by
  induction a with
  | nil => simp [viewL]
  | cons x xs ih => simp [viewL, ih]

theorem viewL_txt (ctx : Str) (nl : Bool) (c : Str) (h : legal c = true) : viewL ctx (txt nl c) = txt nl c := by
  unfold txt
  split
  · simp [viewL]
  · simp [viewL, view, sanitize_legal c h]

theorem view_elem (ctx : Str) (n : Name) (a : List Attr) (ks : List El) :
    view ctx (.elem n a ks) = .elem ⟨nsOf ctx n, n.loc⟩
      ((if n.space = [] then [] else [⟨⟨[], xmlnsL⟩, sanitize n.space⟩]) ++ viewAttrs a []) (viewL (nsOf ctx n) ks) := by
  simp [view]

theorem viewL_opt (ctx : Str) (c : Prop) [Decidable c] (k : El) :
    viewL ctx (if c then [] else [k]) = if c then [] else [view ctx k] := by
  split <;> simp [viewL]

theorem decNodes_txt (nl : Bool) (c : Str) : decNodes (txt nl c) = [] := by
  unfold txt; split <;> simp [decNodes, decNode]

theorem contentOf_txt (nl : Bool) (c : Str) : contentOf (txt nl c) = c := by
  unfold txt; split <;> simp_all [contentOf]

theorem contentOf_elems (ctx : Str) (l : List Tree) (tail : List El) :
    contentOf (viewL ctx (encNodes l) ++ tail) = contentOf tail := by
  induction l with
  | nil => simp [encNodes, viewL]
  | cons t r ih =>
    cases t with
    | mk n a c ns => simpa [encNodes, encNode, viewL, view, contentOf] using ih

theorem nameOk_ne_nil (s : Str) (h : nameOk s = true) : s ≠ [] := by
  intro e
  rw [e] at h
  cases h

theorem viewAttrs_append_plain (a tail : List Attr) (decl : List Str)
    (h : ∀ x ∈ a, x.name.loc ≠ [] ∧ x.name.space = [] ∧ legal x.value = true) :
    viewAttrs (a ++ tail) decl = a ++ viewAttrs tail decl := by
  induction a with
  | nil => rfl
  | cons x xs ih =>
    obtain ⟨hl, hs, hv⟩ := h x List.mem_cons_self
    rw [List.cons_append, viewAttrs, if_neg hl, if_pos hs, sanitize_legal _ hv,
      ih fun y hy => h y (List.mem_cons_of_mem _ hy)]
    rfl

theorem viewAttrs_plain (a : List Attr) (decl : List Str)
    (h : ∀ x ∈ a, x.name.loc ≠ [] ∧ x.name.space = [] ∧ legal x.value = true) : viewAttrs a decl = a := by
  have := viewAttrs_append_plain a [] decl h
  rwa [List.append_nil, viewAttrs, List.append_nil] at this

theorem noNsAttr_space (a : List Attr) (h : a.any (fun x => !x.name.space.isEmpty) = false) :
    ∀ x ∈ a, x.name.space = [] := by
  intro x hx
  simpa using List.any_eq_false.mp h x hx

theorem dropXmlns_plain (a : List Attr) (h : a.all attrInQ = true) : dropXmlns a = a :=
  List.filter_eq_self.mpr fun x hx => by
    have := List.all_eq_true.mp h x hx
    simp only [attrInQ, Bool.and_eq_true] at this
    exact this.1.1.2

theorem dropXmlns_own (sp v : Str) (a : List Attr) :
    dropXmlns ((if sp = [] then [] else [⟨⟨[], xmlnsL⟩, v⟩]) ++ a) = dropXmlns a := by
  split <;> simp [dropXmlns]

theorem nsOf_noInherit (ctx : Str) (n : Name) (hl : legal n.space = true)
    (h : (n.space.isEmpty && !ctx.isEmpty) = false) : nsOf ctx n = n.space := by
  unfold nsOf
  split
  · rename_i e
    have hc : ctx = [] := by simpa [e] using h
    rw [hc, e]
  · exact sanitize_legal _ hl

mutual
theorem node_rt (ctx : Str) (t : Tree) (hq : t.inQ = true) (hi : t.inheritsNs ctx = false)
    (ha : t.hasNsAttr = false) : decNode (view ctx (encNode t)) = some t := by
  cases t with
  | mk n a c ns =>
    simp only [Tree.inQ, Bool.and_eq_true] at hq
    obtain ⟨⟨⟨⟨hn, hsp⟩, hattr⟩, hc⟩, hqs⟩ := hq
    simp only [Tree.inheritsNs, Bool.or_eq_false_iff] at hi
    simp only [Tree.hasNsAttr, Bool.or_eq_false_iff] at ha
    have hns := nsOf_noInherit ctx n hsp hi.1
    have hkids := nodes_rt (nsOf ctx n) ns hqs hi.2 ha.2
    have hplain : ∀ x ∈ a, x.name.loc ≠ [] ∧ x.name.space = [] ∧ legal x.value = true := by
      intro x hx
      have hx' := List.all_eq_true.mp hattr x hx
      simp only [attrInQ, Bool.and_eq_true] at hx'
      exact ⟨nameOk_ne_nil _ hx'.1.1.1, noNsAttr_space a ha.1 x hx, hx'.2⟩
    -- `encNode` writes the content after the child nodes: they are read with that text still behind them
    simp only [encNode, view, decNode, viewL_append, viewL_txt _ _ _ hc, contentOf_elems, contentOf_txt,
      viewAttrs_plain a [] hplain]
    rw [hkids c hc, hns]
    rw [dropXmlns_own, dropXmlns_plain a hattr]
theorem nodes_rt (ctx : Str) (l : List Tree) (hq : Tree.inQL l = true) (hi : Tree.inheritsNsL ctx l = false)
    (ha : Tree.hasNsAttrL l = false) :
    ∀ c : Str, legal c = true → decNodes (viewL ctx (encNodes l) ++ txt false c) = l := by
  cases l with
  | nil => intro c _; simp [encNodes, viewL, decNodes_txt]
  | cons t r =>
    intro c hc
    simp only [Tree.inQL, Bool.and_eq_true] at hq
    simp only [Tree.inheritsNsL, Bool.or_eq_false_iff] at hi
    simp only [Tree.hasNsAttrL, Bool.or_eq_false_iff] at ha
    have h1 := node_rt ctx t hq.1 hi.1 ha.1
    have h2 := nodes_rt ctx r hq.2 hi.2 ha.2 c hc
    simp only [encNodes, viewL, List.cons_append, decNodes, h1, h2]
end

theorem view_encNode (ctx : Str) (n : Name) (a : List Attr) (c : Str) (ns : List Tree)
    (hq : (Tree.mk n a c ns).inQ = true) (hi : (Tree.mk n a c ns).inheritsNs ctx = false)
    (ha : (Tree.mk n a c ns).hasNsAttr = false) :
    ∃ as ks, view ctx (encNode (.mk n a c ns)) = .elem ⟨nsOf ctx n, n.loc⟩ as ks ∧
      decNode (.elem ⟨nsOf ctx n, n.loc⟩ as ks) = some (.mk n a c ns) := by
  have hrt := node_rt ctx (.mk n a c ns) hq hi ha
  rw [encNode, view_elem] at hrt ⊢
  exact ⟨_, _, rfl, hrt⟩

theorem count_eq (c : Char) (s : Str) : count c s = s.count c := List.count_eq_length_filter.symm

theorem count_esc (c : Char) (hc : c = '<' ∨ c = '>') (nl : Bool) (s : Str) : (escapeText nl s).count c = 0 :=
  List.count_eq_zero.mpr fun h => by
    have := (C01_escape_safe nl s).1 c h
    rcases hc with rfl | rfl <;> cases this

theorem count_name (c : Char) (hc : c = '<' ∨ c = '>') (s : Str) (h : nameOk s = true) : s.count c = 0 :=
  List.count_eq_zero.mpr fun hm => by
    have hn : isNameChar c = true := by
      cases s with
      | nil => cases hm
      | cons a r =>
        simp only [nameOk, Bool.and_eq_true, List.all_eq_true] at h
        rcases List.mem_cons.mp hm with e | e
        · rw [e, isNameChar, h.1]; rfl
        · exact h.2 c e
    rcases hc with rfl | rfl <;> cases hn

theorem count_attrs (c : Char) (hc : c = '<' ∨ c = '>') (a : List Attr) (decl : List Str)
    (h : a.all plainAttr = true) : (renderAttrs a decl).count c = 0 := by
  induction a with
  | nil => rfl
  | cons x xs ih =>
    simp only [List.all_cons, Bool.and_eq_true, plainAttr] at h
    obtain ⟨⟨hs, hn⟩, hr⟩ := h
    have hl := nameOk_ne_nil _ hn
    have hs' : x.name.space = [] := by simpa using hs
    have hlit : (' ' == c) = false ∧ (lit "=\"").count c = 0 ∧ ('"' == c) = false := by
      rcases hc with rfl | rfl <;> decide
    rw [renderAttrs, if_neg hl, if_pos hs']
    simp only [List.count_cons, List.count_append, count_esc c hc, count_name c hc _ hn, ih hr, hlit,
      Bool.false_eq_true, if_false]

mutual
theorem struct_el (c : Char) (hc : c = '<' ∨ c = '>') (e : El) (h : e.namesOk = true) :
    count c (render e) = 2 * elemCount e := by
  cases e with
  | elem n a ks =>
    simp only [El.namesOk, Bool.and_eq_true] at h
    obtain ⟨⟨hn, hat⟩, hks⟩ := h
    have ih := struct_els c hc ks hks
    rw [count_eq] at ih ⊢
    have hx : (if n.space = [] then [] else lit " xmlns=\"" ++ escapeText true n.space ++ ['"']).count c = 0 := by
      split
      · rfl
      · simp only [List.count_append, count_esc c hc]
        rcases hc with rfl | rfl <;> decide
    simp only [render, elemCount, List.count_cons, List.count_append, count_name c hc _ hn, count_attrs c hc a [] hat,
      ih, hx]
    rcases hc with rfl | rfl <;> simp <;> omega
  | text nl s => simp [render, elemCount, count_eq, count_esc c hc]
  | raw s => simp [El.namesOk] at h
theorem struct_els (c : Char) (hc : c = '<' ∨ c = '>') (l : List El) (h : El.namesOkL l = true) :
    count c (renderL l) = 2 * elemCountL l := by
  cases l with
  | nil => simp [renderL, elemCountL, count]
  | cons k ks =>
    simp only [El.namesOkL, Bool.and_eq_true] at h
    have h1 := struct_el c hc k h.1
    have h2 := struct_els c hc ks h.2
    rw [count_eq] at h1 h2 ⊢
    simp only [renderL, elemCountL, List.count_append, h1, h2]
    omega
end

mutual
theorem Tree.beq_refl (t : Tree) : Tree.beq t t = true := by
  cases t with
  | mk n a c ns => simp [Tree.beq, Tree.beqL_refl ns]
theorem Tree.beqL_refl (l : List Tree) : Tree.beqL l l = true := by
  cases l with
  | nil => simp [Tree.beqL]
  | cons t r => simp [Tree.beqL, Tree.beq_refl t, Tree.beqL_refl r]
end

mutual
theorem Tree.beq_eq (a b : Tree) (h : Tree.beq a b = true) : a = b := by
  cases a with
  | mk n as c ns =>
    cases b with
    | mk n' as' c' ns' =>
      simp only [Tree.beq, Bool.and_eq_true, decide_eq_true_eq] at h
      obtain ⟨⟨⟨h1, h2⟩, h3⟩, h4⟩ := h
      rw [h1, h2, h3, Tree.beqL_eq ns ns' h4]
theorem Tree.beqL_eq (a b : List Tree) (h : Tree.beqL a b = true) : a = b := by
  cases a with
  | nil => cases b with
    | nil => rfl
    | cons _ _ => simp [Tree.beqL] at h
  | cons x xs => cases b with
    | nil => simp [Tree.beqL] at h
    | cons y ys =>
      simp only [Tree.beqL, Bool.and_eq_true] at h
      rw [Tree.beq_eq x y h.1, Tree.beqL_eq xs ys h.2]
end

mutual
theorem shape_view (ctx : Str) (e : El) : shape (view ctx e) = shape e := by
  cases e with
  | elem n a ks => simp [view, shape, shapeL_view (nsOf ctx n) ks]
  | text nl s => simp [view, shape]
  | raw s => simp [view, shape]
theorem shapeL_view (ctx : Str) (l : List El) : shapeL (viewL ctx l) = shapeL l := by
  cases l with
  | nil => simp [viewL]
  | cons k ks => simp [viewL, shapeL, shape_view ctx k, shapeL_view ctx ks]
end

theorem shapeL_append (a b : List El) : shapeL (a ++ b) = shapeL a ++ shapeL b := by
  induction a with
  | nil => simp [shapeL]
  | cons x xs ih => simp [shapeL, ih]

theorem shapeL_txt (nl : Bool) (s : Str) : shapeL (txt nl s) = [] := by
  unfold txt; split <;> simp [shapeL, shape]

theorem namesOkL_append (a b : List El) : El.namesOkL (a ++ b) = (El.namesOkL a && El.namesOkL b) := by
  induction a with
  | nil => simp [El.namesOkL]
  | cons x xs ih => simp [El.namesOkL, ih, Bool.and_assoc]

theorem namesOkL_txt (nl : Bool) (c : Str) : El.namesOkL (txt nl c) = true := by
  unfold txt; split <;> simp [El.namesOkL, El.namesOk]

mutual
theorem encNode_namesOk (t : Tree) (h : t.namesOk = true) : (encNode t).namesOk = true := by
  cases t with
  | mk n a c ns =>
    simp only [Tree.namesOk, Bool.and_eq_true] at h
    simp [encNode, El.namesOk, namesOkL_append, namesOkL_txt, h.1.1, h.1.2, encNodes_namesOk ns h.2]
theorem encNodes_namesOk (l : List Tree) (h : Tree.namesOkL l = true) : El.namesOkL (encNodes l) = true := by
  cases l with
  | nil => simp [encNodes, El.namesOkL]
  | cons t r =>
    simp only [Tree.namesOkL, Bool.and_eq_true] at h
    simp [encNodes, El.namesOkL, encNode_namesOk t h.1, encNodes_namesOk r h.2]
end

end XmppVerif.Proofs.C01
