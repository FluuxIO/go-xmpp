import XmppVerif.Proofs.C01Node
import XmppVerif.Spec.C01Stanza
namespace XmppVerif.Proofs.C01
open XmppVerif.Model.C01 XmppVerif.Spec.C01 XmppVerif.Props.C01

theorem showNat_digits (n : Nat) : (showNat n).all Char.isDigit = true := by
  rw [List.all_eq_true]
  intro c hc
  exact Nat.isDigit_of_mem_toDigits (by decide) (by decide) hc

theorem showNat_ne_nil (n : Nat) : showNat n ≠ [] := Nat.toDigits_ne_nil

theorem parseNat_showNat (n : Nat) : parseNat (showNat n) = some n := by
  unfold parseNat
  rw [if_pos ⟨showNat_ne_nil n, showNat_digits n⟩]
  simp [showNat]

theorem parseUint64_showNat (n : Nat) (h : n < 2 ^ 64) : parseUint64 (showNat n) = some n := by
  simp [parseUint64, parseNat_showNat, h]

theorem isDigit_range (c : Char) (h : c.isDigit = true) : 48 ≤ c.toNat ∧ c.toNat ≤ 57 :=
  Char.isDigit_iff_toNat.mp h

theorem digit_not_space (c : Char) (h : c.isDigit = true) : isSpaceU c = false := by
  have := isDigit_range c h
  simp only [isSpaceU, Bool.or_eq_false_iff, Bool.and_eq_false_iff, decide_eq_false_iff_not, beq_eq_false_iff_ne]
  omega

theorem dropWhile_head {α} (p : α → Bool) (l : List α) (h : ∀ x ∈ l.head?, p x = false) : l.dropWhile p = l := by
  cases l with
  | nil => rfl
  | cons a r => simp [List.dropWhile, h a (by simp)]

theorem trimSpace_id (s : Str) (h : ∀ c ∈ s, isSpaceU c = false) : trimSpace s = s := by
  unfold trimSpace
  rw [dropWhile_head isSpaceU s (fun x hx => h x (List.mem_of_mem_head? hx))]
  rw [dropWhile_head isSpaceU s.reverse (fun x hx => h x (by simpa using List.mem_of_mem_head? hx))]
  simp

theorem trimSpace_showNat (n : Nat) : trimSpace (showNat n) = showNat n :=
  trimSpace_id _ fun c hc => digit_not_space c (List.all_eq_true.mp (showNat_digits n) c hc)

theorem digit_xml (c : Char) (h : c.isDigit = true) : isXmlChar c = true := by
  have := isDigit_range c h
  simp only [isXmlChar, Bool.or_eq_true, Bool.and_eq_true, decide_eq_true_eq, beq_iff_eq]
  omega

theorem legal_showNat (n : Nat) : legal (showNat n) = true := by
  rw [legal, List.all_eq_true]
  intro c hc
  exact digit_xml c (List.all_eq_true.mp (showNat_digits n) c hc)

theorem showNat_cons (n : Nat) : ∃ c r, showNat n = c :: r ∧ c.isDigit = true := by
  have h := showNat_digits n
  cases hs : showNat n with
  | nil => exact absurd hs (showNat_ne_nil n)
  | cons c r => rw [hs] at h; simp only [List.all_cons, Bool.and_eq_true] at h; exact ⟨c, r, rfl, h.1⟩

theorem parseIntBits_showInt (bits : Nat) (i : Int) (h : intFits bits i = true) :
    parseIntBits bits (showInt i) = some i := by
  simp only [intFits, decide_eq_true_eq] at h
  have hpow : ((2 ^ (bits - 1) : Nat) : Int) = (2 : Int) ^ (bits - 1) := by simp
  unfold showInt
  by_cases hn : i < 0
  · rw [if_pos hn]
    have hle : i.natAbs ≤ 2 ^ (bits - 1) := by omega
    simp only [parseIntBits, if_true, parseNat_showNat, hle]
    congr 1; omega
  · rw [if_neg hn]
    obtain ⟨c, r, hs, hd⟩ := showNat_cons i.toNat
    have hlt : i.toNat < 2 ^ (bits - 1) := by omega
    have hc1 : c ≠ '-' := by intro e; subst e; revert hd; decide
    have hc2 : c ≠ '+' := by intro e; subst e; revert hd; decide
    rw [hs]
    simp only [parseIntBits, hc1, hc2, if_false]
    rw [← hs, parseNat_showNat]
    simp only [hlt, if_true]
    congr 1; omega

theorem showInt_chars (i : Int) : ∀ c ∈ showInt i, c = '-' ∨ c.isDigit = true := by
  intro c hc
  unfold showInt at hc
  split at hc
  · rcases List.mem_cons.mp hc with e | e
    · exact .inl e
    · exact .inr (List.all_eq_true.mp (showNat_digits _) c e)
  · exact .inr (List.all_eq_true.mp (showNat_digits _) c hc)

theorem showInt_noSpace (i : Int) : ∀ c ∈ showInt i, isSpaceU c = false := by
  intro c hc
  rcases showInt_chars i c hc with rfl | h
  · decide
  · exact digit_not_space c h

theorem legal_showInt (i : Int) : legal (showInt i) = true := by
  rw [legal, List.all_eq_true]
  intro c hc
  rcases showInt_chars i c hc with rfl | h
  · decide
  · exact digit_xml c h

theorem showInt_ne_nil (i : Int) : showInt i ≠ [] := by
  unfold showInt; split
  · simp
  · exact showNat_ne_nil _

def pairOk (p : Str × Option Str) : Bool :=
  keyOk p.1 && (match p.2 with | some v => legal v | none => true)

theorem omitEmpty_getD (x : Str) : (omitEmpty x).getD [] = x := by
  unfold omitEmpty
  split
  · rename_i h
    rw [h]
    rfl
  · rfl

theorem omitEmpty_ok (k : Str) (x : Str) (hk : keyOk k = true) (hx : legal x = true) : pairOk (k, omitEmpty x) = true := by
  unfold omitEmpty
  split <;> simp [pairOk, hk, hx]

theorem mem_mkAttrs {x : Attr} {pairs : List (Str × Option Str)} (h : x ∈ mkAttrs pairs) :
    ∃ k v, (k, some v) ∈ pairs ∧ x = ⟨⟨[], k⟩, v⟩ := by
  induction pairs with
  | nil => cases h
  | cons p ps ih =>
    obtain ⟨k, o⟩ := p
    cases o with
    | none =>
      obtain ⟨k', v, hm, e⟩ := ih h
      exact ⟨k', v, List.mem_cons_of_mem _ hm, e⟩
    | some v =>
      rcases List.mem_cons.mp h with e | e
      · exact ⟨k, v, List.mem_cons_self, e⟩
      · obtain ⟨k', v', hm, e'⟩ := ih e
        exact ⟨k', v', List.mem_cons_of_mem _ hm, e'⟩

theorem keyOk_of_mem {pairs : List (Str × Option Str)} (h : (pairs.map (·.1)).all keyOk = true) {k : Str}
    {o : Option Str} (hm : (k, o) ∈ pairs) : nameOk k = true ∧ k ≠ xmlnsL := by
  have hk := List.all_eq_true.mp h k (List.mem_map.mpr ⟨_, hm, rfl⟩)
  simpa only [keyOk, Bool.and_eq_true, bne_iff_ne, ne_eq] using hk

theorem viewAttrs_mkAttrs_append (pairs : List (Str × Option Str)) (tail : List Attr) (decl : List Str)
    (h : pairs.all pairOk = true) : viewAttrs (mkAttrs pairs ++ tail) decl = mkAttrs pairs ++ viewAttrs tail decl :=
  viewAttrs_append_plain _ tail decl fun x hx => by
    obtain ⟨k, v, hm, rfl⟩ := mem_mkAttrs hx
    have hp := List.all_eq_true.mp h _ hm
    simp only [pairOk, keyOk, Bool.and_eq_true] at hp
    exact ⟨nameOk_ne_nil k hp.1.1, rfl, hp.2⟩

theorem viewAttrs_mkAttrs (pairs : List (Str × Option Str)) (decl : List Str)
    (h : pairs.all pairOk = true) : viewAttrs (mkAttrs pairs) decl = mkAttrs pairs := by
  have := viewAttrs_mkAttrs_append pairs [] decl h
  rwa [List.append_nil, viewAttrs, List.append_nil] at this

/-- What the reflection decoder goes through for a field named `k`; the hand-written loops keep the last one. -/
def attrValsK (k : Str) (attrs : List Attr) : List Str := (attrs.filter fun a => a.name.loc == k).map (·.value)

theorem attrValsK_cons (k : Str) (a : Attr) (l : List Attr) :
    attrValsK k (a :: l) = if a.name.loc = k then a.value :: attrValsK k l else attrValsK k l := by
  by_cases h : a.name.loc = k <;> simp [attrValsK, h]

theorem attrValsK_append (k : Str) (l1 l2 : List Attr) : attrValsK k (l1 ++ l2) = attrValsK k l1 ++ attrValsK k l2 := by
  simp [attrValsK, List.filter_append]

theorem attrValsK_eq_nil (k : Str) (l : List Attr) (h : ∀ x ∈ l, x.name.loc ≠ k) : attrValsK k l = [] := by
  rw [attrValsK, List.map_eq_nil_iff, List.filter_eq_nil_iff]
  intro x hx
  simpa using h x hx

theorem attrValsK_absent (k : Str) (pairs : List (Str × Option Str))
    (h : (pairs.map (·.1)).contains k = false) : attrValsK k (mkAttrs pairs) = [] :=
  attrValsK_eq_nil k _ fun x hx e => by
    obtain ⟨k', v, hm, rfl⟩ := mem_mkAttrs hx
    have : (pairs.map (·.1)).contains k = true := by
      rw [List.contains_iff_mem, ← e]
      exact List.mem_map.mpr ⟨_, hm, rfl⟩
    rw [this] at h
    cases h

theorem attrValsK_mkAttrs (k : Str) (o : Option Str) (pairs : List (Str × Option Str))
    (hd : distinct (pairs.map (·.1)) = true) (hm : (k, o) ∈ pairs) : attrValsK k (mkAttrs pairs) = o.toList := by
  induction pairs with
  | nil => cases hm
  | cons p ps ih =>
    obtain ⟨k', o'⟩ := p
    simp only [List.map_cons, distinct, Bool.and_eq_true, Bool.not_eq_true'] at hd
    rcases List.mem_cons.mp hm with e | e
    · have e1 : k = k' := congrArg Prod.fst e
      have e2 : o = o' := congrArg Prod.snd e
      subst e1 e2
      have hab := attrValsK_absent k ps hd.1
      cases o with
      | none => exact hab
      | some v =>
        rw [mkAttrs, attrValsK_cons, if_pos rfl, hab]
        rfl
    · have ih' := ih hd.2 e
      have hne : k' ≠ k := by
        intro e'
        subst e'
        have : (ps.map (·.1)).contains k' = true := by
          rw [List.contains_iff_mem]
          exact List.mem_map.mpr ⟨(k', o), e, rfl⟩
        rw [this] at hd
        cases hd.1
      cases o' with
      | none => exact ih'
      | some v => rw [mkAttrs, attrValsK_cons, if_neg hne, ih']

/-- the declaration of the element's own namespace, which the decoder reports as an attribute, is no field's -/
theorem attrValsK_own (k : Str) (sp v : Str) (l : List Attr) (h : k ≠ xmlnsL) :
    attrValsK k ((if sp = [] then [] else [⟨⟨[], xmlnsL⟩, v⟩]) ++ l) = attrValsK k l := by
  split
  · rfl
  · rw [List.singleton_append, attrValsK_cons, if_neg (Ne.symm h)]

theorem lastAttr?_eq (k : Str) (l : List Attr) : lastAttr? k l = (attrValsK k l).getLast? := by
  induction l with
  | nil => rfl
  | cons a r ih =>
    rw [lastAttr?, ih, attrValsK_cons]
    by_cases h : a.name.loc = k
    · rw [if_pos h, if_pos h, List.getLast?_cons]
      cases (attrValsK k r).getLast? <;> rfl
    · rw [if_neg h, if_neg h]
      cases (attrValsK k r).getLast? <;> rfl

/-- `own`: the declaration of the element's own namespace, which the decoder reports in front of what was written. -/
theorem lastAttr?_written (pairs : List (Str × Option Str)) (hk : (pairs.map (·.1)).all keyOk = true)
    (hd : distinct (pairs.map (·.1)) = true) (own : List Attr) (hown : own.all (·.name.loc == xmlnsL) = true) :
    ∀ p ∈ pairs, lastAttr? p.1 (own ++ mkAttrs pairs) = p.2 := by
  intro p hm
  have hne := Ne.symm (keyOk_of_mem hk hm).2
  have hnone : attrValsK p.1 own = [] :=
    attrValsK_eq_nil p.1 own fun x hx => beq_iff_eq.mp (List.all_eq_true.mp hown x hx) ▸ hne
  rw [lastAttr?_eq, attrValsK_append, hnone, attrValsK_mkAttrs p.1 p.2 pairs hd hm]
  cases p.2 <;> rfl

def stanzaPairs (a : Attrs) : List (Str × Option Str) :=
  [(['t', 'y', 'p', 'e'], omitEmpty a.typ), (['i', 'd'], omitEmpty a.id), (['f', 'r', 'o', 'm'], omitEmpty a.frm),
   (['t', 'o'], omitEmpty a.to), (['l', 'a', 'n', 'g'], omitEmpty a.lang)]

theorem attrs_ok (a : Attrs) (h : a.wf = true) : (stanzaPairs a).all pairOk = true := by
  simp only [Attrs.wf, Bool.and_eq_true] at h
  obtain ⟨⟨⟨⟨h1, h2⟩, h3⟩, h4⟩, h5⟩ := h
  simp only [stanzaPairs, List.all_cons, List.all_nil, Bool.and_true, Bool.and_eq_true]
  exact ⟨omitEmpty_ok _ _ (by decide) h1, omitEmpty_ok _ _ (by decide) h2, omitEmpty_ok _ _ (by decide) h3,
    omitEmpty_ok _ _ (by decide) h4, omitEmpty_ok _ _ (by decide) h5⟩

theorem attrs_view (a : Attrs) (h : a.wf = true) : viewAttrs (encAttrs a) [] = encAttrs a :=
  viewAttrs_mkAttrs _ [] (attrs_ok a h)

theorem decAttrs_encAttrs (a : Attrs) : decAttrs (encAttrs a) = a := by
  have h := lastAttr?_written (stanzaPairs a) (by simp only [stanzaPairs, List.map_cons, List.map_nil]; decide)
    (by simp only [stanzaPairs, List.map_cons, List.map_nil]; decide) [] rfl
  simp only [stanzaPairs, List.forall_mem_cons, List.nil_append] at h
  simp only [decAttrs, encAttrs, lastAttr, h, omitEmpty_getD]

end XmppVerif.Proofs.C01
