import XmppVerif.Proofs.C01SchemaMain
/- What a well-formed schema writes consists of named elements and plain attributes only, for every value with names
in its name positions (`Val.namesOk`; fitting or not) - so the text never adds structure; a fitting value has such
names, and blanking its non-empty strings (`Val.mask`) changes neither. -/
namespace XmppVerif.Proofs.C01S
open XmppVerif.Model.C01
open XmppVerif.Model.C01S XmppVerif.Spec.C01 XmppVerif.Props.C01 XmppVerif.Proofs.C01

theorem namesOkL_flatMap_mem {α : Type} (f : α → List El) (l : List α) (h : ∀ x ∈ l, El.namesOkL (f x) = true) :
    El.namesOkL (l.flatMap f) = true := by
  induction l with
  | nil => simp [El.namesOkL]
  | cons x xs ih =>
    rw [List.flatMap_cons, namesOkL_append, h x (by simp), ih (fun y hy => h y (by simp [hy]))]; rfl

theorem namesOkL_flatMap {α : Type} (f : α → List El) (l : List α) (h : ∀ x, El.namesOkL (f x) = true) :
    El.namesOkL (l.flatMap f) = true :=
  namesOkL_flatMap_mem f l fun x _ => h x

theorem valNamesOkL_iff (l : List Val) : Val.namesOkL l = true ↔ ∀ x ∈ l, x.namesOk = true := by
  induction l with
  | nil => simp [Val.namesOkL]
  | cons x xs ih => simp [Val.namesOkL, ih]

theorem mkAttrs_plain (pairs : List (Str × Option Str)) (h : (pairs.map (·.1)).all keyOk = true) :
    (mkAttrs pairs).all plainAttr = true := by
  rw [List.all_eq_true]
  intro x hx
  obtain ⟨k, v, hm, rfl⟩ := mem_mkAttrs hx
  simp [plainAttr, (keyOk_of_mem h hm).1]

theorem encKids_short (ps : Str) (hs : List Hdr) (ts : List Ty) (vs : List Val)
    (h : hs = [] ∨ ts = [] ∨ vs = []) : encKids ps hs ts vs = [] := by
  rcases h with e | e | e <;> subst e
  · cases ts <;> rfl
  · cases hs <;> rfl
  · cases hs <;> cases ts <;> rfl

theorem startName_nameOk (tn : Str) (xn : XN) (dn fn : Name) (pns : Bool) (hn : nameOk fn.loc = true)
    (hx : xnOk fn pns xn = true) (hd : (dn.loc.isEmpty || nameOk dn.loc) = true) :
    nameOk (startName tn xn dn fn).loc = true := by
  have hne := nameOk_ne_nil _ hn
  cases xn with
  | dyn =>
    by_cases hz : dn.loc = []
    · simp [startName, hz, hne, hn]
    · simp only [startName, hz, ne_eq, not_false_eq_true, if_true]
      simpa [hz] using hd
  | absent => simp [startName, hne, hn]
  | tag n =>
    simp only [xnOk, Bool.and_eq_true, beq_iff_eq] at hx
    simp [startName, hx.1.1, hn]

theorem emptyNsAttr_plain (xn : XN) (nm : Name) (ps : Str) : (emptyNsAttr xn nm ps).all plainAttr = true := by
  unfold emptyNsAttr
  split
  · decide
  · rfl

def NamesE (ps : Str) (fn : Name) (om : Bool) (t : Ty) : Prop :=
  ∀ v : Val, v.namesOk = true → El.namesOkL (encD ps fn om t v) = true

theorem names_ptr {ps : Str} {fn : Name} {om : Bool} {t : Ty} (hE : NamesE ps fn om t) : NamesE ps fn om (.ptr t) := by
  intro v hv
  cases v with
  | ref x => exact hE x hv
  | _ => rfl

theorem names_slice {ps : Str} {fn : Name} {om : Bool} {t : Ty} (hE : NamesE ps fn om t) :
    NamesE ps fn om (.slice t) := by
  intro v hv
  cases v with
  | slice l =>
    rw [encD_slice]
    refine namesOkL_flatMap_mem _ l fun x hx => ?_
    split
    · rfl
    · exact hE x ((valNamesOkL_iff l).mp hv x hx)
  | _ => rfl

theorem names_history (ps : Str) (fn : Name) (om : Bool) : NamesE ps fn om .history := by
  intro v _
  cases v with
  | history a b c =>
    have hk : ([(maxcharsL, a.map showInt), (maxstanzasL, b.map showInt), (secondsL, c.map showInt)].map
        (·.1)).all keyOk = true := by
      simp only [List.map_cons, List.map_nil]; decide
    have hnm : nameOk historyL = true := by decide
    rw [encD_history, encHistory]
    split
    · rfl
    · simp [El.namesOkL, El.namesOk, hnm, mkAttrs_plain _ hk]
  | _ => rfl

theorem names_anyNode (ps : Str) (fn : Name) (om : Bool) : NamesE ps fn om (.ptr .node) := by
  refine names_ptr fun v hv => ?_
  cases v with
  | node tr => simp [encD_node, El.namesOkL, encNode_namesOk tr hv]
  | _ => rfl

theorem names_fieldKids {ps : Str} {h : Hdr} {t : Ty} (hE : NamesE ps h.name h.om t) (v : Val)
    (hv : v.namesOk = true) : El.namesOkL (fieldKids ps h t v) = true := by
  unfold fieldKids
  split
  · split
    · rfl
    · exact hE v hv
  · rfl

theorem names_motive : WfMotive (fun fn _ t => nameOk fn.loc = true → ∀ ps om, NamesE ps fn om t)
    (fun h _ t => ∀ ps, NamesE ps h.name h.om t)
    (fun _ hs ts => ∀ ps vs, Val.namesOkL vs = true → El.namesOkL (encKids ps hs ts vs) = true) where
  prim fn pns k _ hn ps om v _ := by
    simp [encD_prim, nameOk_ne_nil _ hn, El.namesOkL, El.namesOk, hn, namesOkL_txt]
  struct fn pns tn xn hs ts hw hQ hn ps om v hv := by
    obtain ⟨hxn, _, hok, _⟩ := wfE_struct hw
    cases v with
    | struct dn vs =>
      have hv' : ((dn.loc.isEmpty || nameOk dn.loc) && Val.namesOkL vs) = true := hv
      rw [Bool.and_eq_true] at hv'
      rw [encD_struct_ok ps fn om tn xn hs ts dn vs hok]
      simp only [El.namesOkL, El.namesOk, startName_nameOk tn xn dn fn pns hn hxn hv'.1,
        List.all_append, mkAttrs_plain _ (attrPairs_keysOk hs ts vs hok), emptyNsAttr_plain,
        hQ _ vs hv'.2, Bool.and_self]
    | _ => rfl
  iface h pns ps v _ := rfl
  history h pns _ _ _ ps := names_history ps _ _
  ptrU h pns w ps := names_ptr fun _ _ => rfl
  bare h pns e _ hn _ hP ps := hP hn ps h.om
  ptr h pns e _ hn _ hP ps := names_ptr (hP hn ps h.om)
  slice h pns e _ hn _ hP ps := names_slice (hP hn ps h.om)
  slicePtr h pns e _ hn _ hP ps := names_slice (names_ptr (hP hn ps h.om))
  short pns hs ts h ps vs _ := by rw [encKids_short ps hs ts vs (h.elim Or.inl fun e => Or.inr (Or.inl e))]; rfl
  cons pns h hs t ts hk _ he hy hQ ps vs hvs := by
    cases vs with
    | nil => rw [encKids_short ps _ _ [] (Or.inr (Or.inr rfl))]; rfl
    | cons v vs =>
      have hvs' : (v.namesOk && Val.namesOkL vs) = true := hvs
      rw [Bool.and_eq_true] at hvs'
      rw [encKids_cons, namesOkL_append, hQ ps vs hvs'.2, Bool.and_true]
      rcases hdrOk_mode h hk with hm | hm | hm
      · simp [fieldKids, hm, El.namesOkL]
      · exact names_fieldKids (he hm ps) v hvs'.1
      · rw [hy hm]; exact names_fieldKids (names_anyNode ps _ _) v hvs'.1

theorem namesE (t : Ty) (fn : Name) (pns : Bool) (hn : nameOk fn.loc = true) (hw : Ty.wfE fn pns t = true) :
    ∀ (ps : Str) (om : Bool) (v : Val), v.namesOk = true → El.namesOkL (encD ps fn om t v) = true :=
  names_motive.elem t fn pns hw hn

theorem namesFs (ts : List Ty) (pns : Bool) (hs : List Hdr) (hok : hs.all hdrOk = true)
    (hwf : Ty.wfFields pns hs ts = true) :
    ∀ (ps : Str) (vs : List Val), Val.namesOkL vs = true → El.namesOkL (encKids ps hs ts vs) = true :=
  names_motive.fields ts pns hs hok hwf

theorem isEmptyVal_mask (v : Val) : isEmptyVal v.mask = isEmptyVal v := by
  cases v with
  | str s => cases s <;> simp [Val.mask, isEmptyVal]
  | slice l => cases l <;> simp [Val.mask, Val.maskL, isEmptyVal]
  | _ => simp [Val.mask, isEmptyVal]

theorem shapeL_raw_opt (s : Str) : shapeL (if s.isEmpty then [] else [El.raw s]) = [] := by
  split <;> simp [shapeL, shape]

mutual
theorem maskE (t : Ty) : ∀ (ps : Str) (fn : Name) (om : Bool) (v : Val),
    shapeL (encD ps fn om t v.mask) = shapeL (encD ps fn om t v) := by
  intro ps fn om v
  cases t with
  | prim k => simp [encD_prim, shapeL, shape, shapeL_txt]
  | ptr t' =>
    cases v with
    | ref x => exact maskE t' ps fn om x
    | _ => rfl
  | slice t' =>
    cases v with
    | slice l =>
      simp only [Val.mask, encD_slice]
      induction l with
      | nil => simp [Val.maskL]
      | cons x xs ih =>
        simp only [Val.maskL, List.flatMap_cons, shapeL_append, ih, isEmptyVal_mask]
        congr 1
        split
        · rfl
        · exact maskE t' ps fn om x
    | _ => rfl
  | struct tn xn hs ts =>
    cases v with
    | struct dn vs =>
      simp only [Val.mask, encD_struct, shapeL, shape, shapeL_append, shapeL_raw_opt]
      rw [maskFs ts _ hs vs]
    | _ => rfl
  | iface => rfl
  | history => cases v <;> rfl
  | node => cases v <;> rfl
  | unsupported w => rfl
theorem maskFs (ts : List Ty) : ∀ (ps : Str) (hs : List Hdr) (vs : List Val),
    shapeL (encKids ps hs ts (Val.maskL vs)) = shapeL (encKids ps hs ts vs) := by
  intro ps hs vs
  cases ts with
  | nil => rw [encKids_short ps hs [] _ (by simp), encKids_short ps hs [] vs (by simp)]
  | cons t ts =>
    cases hs with
    | nil => rw [encKids_short ps [] _ _ (by simp), encKids_short ps [] _ vs (by simp)]
    | cons h hs =>
      cases vs with
      | nil => simp [Val.maskL]
      | cons v vs =>
        simp only [Val.maskL, encKids_cons, shapeL_append, maskFs ts ps hs vs, fieldKids, isEmptyVal_mask]
        congr 1
        split
        · split
          · rfl
          · exact maskE t ps h.name h.om v
        · rfl
end

mutual
theorem tree_names (t : Tree) (hq : t.inQ = true) (ha : t.hasNsAttr = false) : t.namesOk = true := by
  cases t with
  | mk n a c ns =>
    simp only [Tree.inQ, Bool.and_eq_true] at hq
    obtain ⟨⟨⟨⟨hn, _⟩, hattr⟩, _⟩, hqs⟩ := hq
    simp only [Tree.hasNsAttr, Bool.or_eq_false_iff] at ha
    have hpl : a.all plainAttr = true := by
      rw [List.all_eq_true]
      intro x hx
      have hx' := List.all_eq_true.mp hattr x hx
      simp only [attrInQ, Bool.and_eq_true] at hx'
      simp [plainAttr, noNsAttr_space a ha.1 x hx, hx'.1.1.1]
    simp [Tree.namesOk, hn, hpl, trees_names ns hqs ha.2]
theorem trees_names (l : List Tree) (hq : Tree.inQL l = true) (ha : Tree.hasNsAttrL l = false) :
    Tree.namesOkL l = true := by
  cases l with
  | nil => simp [Tree.namesOkL]
  | cons t r =>
    simp only [Tree.inQL, Bool.and_eq_true] at hq
    simp only [Tree.hasNsAttrL, Bool.or_eq_false_iff] at ha
    simp [Tree.namesOkL, tree_names t hq.1 ha.1, trees_names r hq.2 ha.2]
end

theorem primFits_namesOk {k : Prim} {v : Val} (h : primFits k v = true) : v.namesOk = true := by
  cases k <;> cases v <;> first | rfl | cases h

theorem attrFits_namesOk {fn : Name} {om : Bool} {t : Ty} {v : Val} (ht : attrTyOk t = true)
    (hf : Val.fitsF fn om t v = true) : v.namesOk = true := by
  cases t with
  | prim k => exact primFits_namesOk (k := k) (by cases v <;> exact hf)
  | ptr t' =>
    cases t' with
    | prim k =>
      cases v with
      | nil => rfl
      | ref x => exact primFits_namesOk (k := k) (v := x) hf
      | _ => cases hf
    | _ => cases ht
  | _ => cases ht

theorem anyFits_namesOk {tk : List Str} {v : Val} (h : anyFits tk v = true) : v.namesOk = true := by
  cases v with
  | nil => rfl
  | ref x =>
    cases x with
    | node tr =>
      cases tr with
      | mk n a c ns =>
        simp only [anyFits, Bool.and_eq_true, Bool.not_eq_true'] at h
        exact tree_names _ h.1.1.1 h.1.2
    | _ => cases h
  | _ => cases h

theorem fits_names_motive :
    WfMotive (fun fn _ t => nameOk fn.loc = true → ∀ v, Val.fitsE fn t v = true → v.namesOk = true)
      (fun h _ t => ∀ v, Val.fitsF h.name h.om t v = true → v.namesOk = true)
      (fun _ hs ts => ∀ tk vs, Val.fitsFields tk hs ts vs = true → Val.namesOkL vs = true) where
  prim fn pns k _ _ v hf := primFits_namesOk (k := k) (by cases v <;> exact hf)
  struct fn pns tn xn hs ts _ hQ hn v hf := by
    cases v with
    | struct dn vs =>
      obtain ⟨hdn, hff⟩ := fitsE_struct hf
      have hd : (dn.loc.isEmpty || nameOk dn.loc) = true := by
        rw [hdn]; by_cases hd : xn = .dyn <;> simp [hd, hn, noName]
      exact Bool.and_eq_true_iff.mpr ⟨hd, hQ _ vs hff⟩
    | _ => cases hf
  iface h pns v hf := by rw [fitsF_iface hf]; rfl
  history h pns _ _ _ v hf := by obtain ⟨a, b, c, rfl, _⟩ := fitsF_history hf; rfl
  ptrU h pns w v hf := by rw [fitsF_ptrU hf]; rfl
  bare h pns e _ hn hw hP v hf := hP hn v (by rw [← fitsF_E hw h.om]; exact hf)
  ptr h pns e _ hn hw hP v hf := by
    rcases fitsF_ptr hw hf with rfl | ⟨x, rfl, hx⟩
    · rfl
    · exact hP hn x hx
  slice h pns e _ hn hw hP v hf := by
    obtain ⟨l, rfl, hl⟩ := fitsF_slice hw hf
    exact (valNamesOkL_iff l).mpr fun x hx => hP hn x (hl x hx).1
  slicePtr h pns e _ hn _ hP v hf := by
    obtain ⟨l, rfl, hl⟩ := fitsF_slicePtr hf
    refine (valNamesOkL_iff l).mpr fun x hx => ?_
    obtain ⟨y, rfl, hy⟩ := hl x hx
    exact hP hn y hy
  short pns hs ts h tk vs hf := by
    rcases h with rfl | rfl
    · cases ts <;> cases vs <;> first | rfl | cases hf
    · cases hs <;> cases vs <;> first | rfl | cases hf
  cons pns h hs t ts hk ha he _ hQ tk vs hf := by
    cases vs with
    | nil => cases hf
    | cons v vs =>
      rw [fitsFields_cons, Bool.and_eq_true] at hf
      refine Bool.and_eq_true_iff.mpr ⟨?_, hQ tk vs hf.2⟩
      rcases hdrOk_mode h hk with hm | hm | hm
      · exact attrFits_namesOk (ha hm) (by simpa [hm] using hf.1)
      · exact he hm v (by simpa [hm] using hf.1)
      · exact anyFits_namesOk (tk := tk) (by simpa [hm] using hf.1)

theorem fits_names (t : Ty) (fn : Name) (pns : Bool) (hn : nameOk fn.loc = true) (hw : Ty.wfE fn pns t = true) :
    ∀ v, Val.fitsE fn t v = true → v.namesOk = true :=
  fits_names_motive.elem t fn pns hw hn

theorem fits_namesFs (ts : List Ty) (pns : Bool) (hs : List Hdr) (hok : hs.all hdrOk = true)
    (hwf : Ty.wfFields pns hs ts = true) :
    ∀ (tk : List Str) (vs : List Val), Val.fitsFields tk hs ts vs = true → Val.namesOkL vs = true :=
  fits_names_motive.fields ts pns hs hok hwf

end XmppVerif.Proofs.C01S
