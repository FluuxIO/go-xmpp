import XmppVerif.Props.NegLemmas
/-
C03 - negotiation succeeds iff the server completed every mandatory step, in order.
-/
namespace XmppVerif.Props.C03
open XmppVerif.Model.Neg XmppVerif.Spec.Neg XmppVerif.Props.Neg

def completesAfterAuth (s : Sess) (f3 : Features) (sc : Script) : Bool :=
  let canResume := f3.sm && s.smId != ""
  (canResume && sc.resumeReply == .resumedSame) ||
  ((!canResume || sc.resumeReply == .failed) && sc.bindReply == .resultBind &&
   (!f3.sessionMandatory || sc.sessReply == .result) &&
   (!(f3.sm && s.smReq) || isEnabled sc.enableReply))

/-- the reference `completes` in the terms the paths are stated in -/
theorem completes_eq (cfg : Cfg) (s0 : Sess) (sc : Script) :
    completes cfg s0 sc =
      (sc.conn == .ok &&
       (match sc.feat1 with
        | none => false
        | some f1 => if f1.starttls then tlsNegotiated f1 sc else cfg.insecure) &&
       (match featuresAtAuth sc with
        | none => false
        | some fa => fa.mech && sc.authReply == .success) &&
       sc.open3 &&
       (match sc.feat3 with
        | none => false
        | some f3 => completesAfterAuth (sfix s0) f3 sc)) := by
  unfold completes featuresAtAuth completesAfterAuth
  rw [sfix_smId, sfix_smReq]
  cases sc.feat1 <;> simp [Bool.and_assoc] <;> rfl

/-- **Success iff**: for every configuration, every session state carried over from earlier connections and every
server behaviour (one reply class per step), the connection is established exactly when the server completed every
mandatory step; in every other case `connect` returns an error (the outcome type has no third value: the model is
total, no step can hang or panic). -/
theorem C03_success_iff (cfg : Cfg) (s0 : Sess) (sc : Script) :
    (negotiate cfg s0 sc).outcome = .established ↔ completes cfg s0 sc = true := by
  have h := negotiate_path cfg s0 sc
  generalize negotiate cfg s0 sc = r at h ⊢
  -- each path fixes every reply `completes` looks at
  cases h with
  | stop h => path_leaves h <;> simp [completes_eq, *]
  | @go _ f3 _ _ h1 h2 =>
    have hc : completes cfg s0 sc = completesAfterAuth (sfix s0) f3 sc := by
      cases h1 with | go hr => cases hr <;> simp [completes_eq, *]
    rw [hc]
    path_leaves h2 <;> simp [completesAfterAuth, isEnabled, *]

theorem C03_error_otherwise (cfg : Cfg) (s0 : Sess) (sc : Script) (h : completes cfg s0 sc = false) :
    ∃ perm, (negotiate cfg s0 sc).outcome = .failed perm := by
  cases ho : (negotiate cfg s0 sc).outcome with
  | established => rw [(C03_success_iff cfg s0 sc).mp ho] at h; exact absurd h (by simp)
  | failed p => exact ⟨p, rfl⟩

/-- **Order**: in every negotiation the client's writes follow the RFC 6120 sequence
open, [starttls, open], auth, open, [resume], [bind, [session], [enable]] - for every server behaviour. Together
with the model's structure (each write sits behind the success branch of the previous reply) this is "each request
is sent only after the previous step was confirmed". -/
theorem C03_order (cfg : Cfg) (s0 : Sess) (sc : Script) :
    orderOk ((negotiate cfg s0 sc).writes.map (·.kind)) = true := by
  have h := negotiate_path cfg s0 sc
  generalize negotiate cfg s0 sc = r at h ⊢
  path_leaves h <;> rfl   -- the automaton runs over a literal list

/-- confirmation: a bind, session or enable request is only ever written after `<success/>` and a decodable
post-SASL feature set; a session request only after a bind result; `<enable/>` only after bind (and session). -/
theorem C03_sm_and_bind_only_after_auth (cfg : Cfg) (s0 : Sess) (sc : Script) (w : Write)
    (hw : w ∈ (negotiate cfg s0 sc).writes) (hk : w.kind = .bind ∨ w.kind = .session ∨ w.kind = .enable ∨ isResume w.kind = true) :
    sc.authReply = .success ∧ sc.open3 = true ∧ sc.feat3.isSome = true := by
  have h := negotiate_path cfg s0 sc
  generalize negotiate cfg s0 sc = r at h hw
  cases h with
  | go h1 h2 => cases h1; simp [*]                -- reaching the post-SASL steps needs exactly these replies
  | stop h =>
    have hall : r.writes.all (fun w => w.kind == .open_ || w.kind == .starttls || w.kind == .auth) = true := by
      path_leaves h <;> rfl
    have hw := List.all_eq_true.mp hall w hw
    cases hwk : w.kind <;> simp [hwk, isResume] at hw hk

-- non-vacuity: the reference is satisfiable and refutable
example : completes ⟨true⟩ ⟨false, "", 0, "", false⟩
    { conn := .ok, feat1 := some ⟨false, true, false, false⟩, tlsReply := .closed, tlsOk := false, open2 := false,
      feat2 := none, authReply := .success, open3 := true, feat3 := some ⟨false, true, false, false⟩,
      resumeReply := .undecodable, bindReply := .resultBind, sessReply := .undecodable, enableReply := .undecodable,
      newSmId := "", bindJid := "j" } = true := by decide
example : completes ⟨false⟩ ⟨false, "", 0, "", false⟩
    { conn := .ok, feat1 := some ⟨false, true, false, false⟩, tlsReply := .closed, tlsOk := false, open2 := false,
      feat2 := none, authReply := .success, open3 := true, feat3 := some ⟨false, true, false, false⟩,
      resumeReply := .undecodable, bindReply := .resultBind, sessReply := .undecodable, enableReply := .undecodable,
      newSmId := "", bindJid := "j" } = false := by decide

end XmppVerif.Props.C03

#print axioms XmppVerif.Props.C03.C03_success_iff
#print axioms XmppVerif.Props.C03.C03_error_otherwise
#print axioms XmppVerif.Props.C03.C03_order
#print axioms XmppVerif.Props.C03.C03_sm_and_bind_only_after_auth
