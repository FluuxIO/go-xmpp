import XmppVerif.Spec.Neg
/-
The negotiation model seen as a set of paths, shared by C03 / C04 / C11 / C14: `negotiate` (one connection attempt)
leaves through one of a few exits, each determined by what the server answered; `negotiate_path` says which, with the
result it produces. Every property of a connection attempt is then checked path by path, on concrete write lists.
-/
namespace XmppVerif.Props.Neg
open XmppVerif.Model.Neg XmppVerif.Spec.Neg

def isResume : WKind → Bool
  | .resume _ _ => true
  | _ => false

/-- The connection got as far as SASL: under TLS, or in the clear because the application allows it.
`sec`, `pre` = the secure flag from here on and what the client has written so far. -/
inductive ReachesAuth (cfg : Cfg) (sc : Script) : Bool → List Write → Prop
  | tls {f1} (hc : sc.conn = .ok) (hf : sc.feat1 = some f1) (hs : f1.starttls = true)
      (ht : tlsNegotiated f1 sc = true) :
      ReachesAuth cfg sc true [⟨.open_, false⟩, ⟨.starttls, false⟩, ⟨.open_, true⟩]
  | plain {f1} (hc : sc.conn = .ok) (hf : sc.feat1 = some f1) (hs : f1.starttls = false) (hi : cfg.insecure = true) :
      ReachesAuth cfg sc false [⟨.open_, false⟩]

/-- The ways `phase1` (dial, stream header, STARTTLS, SASL, the two stream restarts) can go: one constructor per exit
of the code, with what the server must have done and what results. -/
inductive Phase1Path (cfg : Cfg) (s0 : Sess) (sc : Script) : Phase1 → Prop
  | dialFail (hc : sc.conn = .dialFail) : Phase1Path cfg s0 sc (.stop ⟨.failed false, [], s0, false, false⟩)
  | headerFail (hc : sc.conn = .headerFail) :
      Phase1Path cfg s0 sc (.stop ⟨.failed false, [⟨.open_, false⟩], s0, false, false⟩)
  | noFeatures (hc : sc.conn = .ok) (hf : sc.feat1 = none) :
      Phase1Path cfg s0 sc (.stop ⟨.failed true, [⟨.open_, false⟩], s0.dropped, false, false⟩)
  | tlsMissing {f1} (hc : sc.conn = .ok) (hf : sc.feat1 = some f1) (hs : f1.starttls = false)
      (hi : cfg.insecure = false) :
      Phase1Path cfg s0 sc (.stop ⟨.failed true, [⟨.open_, false⟩], s0.dropped, false, false⟩)
  | tlsFailed {f1} (hc : sc.conn = .ok) (hf : sc.feat1 = some f1) (hs : f1.starttls = true)
      (ht : tlsNegotiated f1 sc = false) (hi : cfg.insecure = false) :
      Phase1Path cfg s0 sc (.stop ⟨.failed true, [⟨.open_, false⟩, ⟨.starttls, false⟩], s0.dropped, false, false⟩)
  | tlsBroken {f1} (hc : sc.conn = .ok) (hf : sc.feat1 = some f1) (hs : f1.starttls = true)
      (ht : tlsNegotiated f1 sc = false) (hi : cfg.insecure = true) :
      Phase1Path cfg s0 sc (.stop ⟨.failed false, [⟨.open_, false⟩, ⟨.starttls, false⟩], sfix s0, false, false⟩)
  | noFeaturesAtAuth {sec pre} (hr : ReachesAuth cfg sc sec pre) (hfa : featuresAtAuth sc = none) :
      Phase1Path cfg s0 sc (.stop ⟨.failed false, pre, sfix s0, sec, false⟩)
  | noMech {sec pre fa} (hr : ReachesAuth cfg sc sec pre) (hfa : featuresAtAuth sc = some fa) (hm : fa.mech = false) :
      Phase1Path cfg s0 sc (.stop ⟨.failed true, pre, sfix s0, sec, false⟩)
  | authRefused {sec pre fa} (hr : ReachesAuth cfg sc sec pre) (hfa : featuresAtAuth sc = some fa) (hm : fa.mech = true)
      (ha : sc.authReply ≠ .success) :
      Phase1Path cfg s0 sc
        (.stop ⟨.failed (decide (sc.authReply = .failure)), pre ++ [⟨.auth, sec⟩], sfix s0, sec, false⟩)
  | noRestartAfterAuth {sec pre fa} (hr : ReachesAuth cfg sc sec pre) (hfa : featuresAtAuth sc = some fa) (hm : fa.mech = true)
      (ha : sc.authReply = .success) (ho : sc.open3 = false) :
      Phase1Path cfg s0 sc (.stop ⟨.failed false, pre ++ [⟨.auth, sec⟩, ⟨.open_, sec⟩], sfix s0, sec, false⟩)
  | noFeaturesAfterAuth {sec pre fa} (hr : ReachesAuth cfg sc sec pre) (hfa : featuresAtAuth sc = some fa) (hm : fa.mech = true)
      (ha : sc.authReply = .success) (ho : sc.open3 = true) (hf3 : sc.feat3 = none) :
      Phase1Path cfg s0 sc (.stop ⟨.failed false, pre ++ [⟨.auth, sec⟩, ⟨.open_, sec⟩], sfix s0, sec, false⟩)
  | go {sec pre fa f3} (hr : ReachesAuth cfg sc sec pre) (hfa : featuresAtAuth sc = some fa) (hm : fa.mech = true)
      (ha : sc.authReply = .success) (ho : sc.open3 = true) (hf3 : sc.feat3 = some f3) :
      Phase1Path cfg s0 sc (.go sec f3 (pre ++ [⟨.auth, sec⟩, ⟨.open_, sec⟩]))

theorem phase1_path (cfg : Cfg) (s0 : Sess) (sc : Script) : Phase1Path cfg s0 sc (phase1 cfg s0 sc) := by
  have htn : ∀ f1, (f1.starttls && sc.tlsReply == .proceed && sc.tlsOk) = tlsNegotiated f1 sc := fun _ => rfl
  have sasl : ∀ {sec pre}, ReachesAuth cfg sc sec pre → Phase1Path cfg s0 sc (phase1 cfg s0 sc) := by
    intro sec pre hr
    have tail : phase1 cfg s0 sc =
        match featuresAtAuth sc with
        | none => .stop ⟨.failed false, pre, sfix s0, sec, false⟩
        | some fa =>
          if !fa.mech then .stop ⟨.failed true, pre, sfix s0, sec, false⟩
          else match sc.authReply with
            | .failure => .stop ⟨.failed true, pre ++ [⟨.auth, sec⟩], sfix s0, sec, false⟩
            | .otherPacket => .stop ⟨.failed false, pre ++ [⟨.auth, sec⟩], sfix s0, sec, false⟩
            | .undecodable => .stop ⟨.failed false, pre ++ [⟨.auth, sec⟩], sfix s0, sec, false⟩
            | .success =>
              if !sc.open3 then .stop ⟨.failed false, pre ++ [⟨.auth, sec⟩, ⟨.open_, sec⟩], sfix s0, sec, false⟩
              else match sc.feat3 with
                | none => .stop ⟨.failed false, pre ++ [⟨.auth, sec⟩, ⟨.open_, sec⟩], sfix s0, sec, false⟩
                | some f3 => .go sec f3 (pre ++ [⟨.auth, sec⟩, ⟨.open_, sec⟩]) := by
      cases hr with
      -- after `simp` the two sides differ only in which matcher they call: `rfl`
      | tls hc hf hs ht =>
        simp only [phase1, htn]
        simp [featuresAtAuth, hc, hf, hs, ht]
        rfl
      | @plain f1 hc hf hs hi =>
        have ht : tlsNegotiated f1 sc = false := by simp [tlsNegotiated, hs]
        simp only [phase1, htn]
        simp [featuresAtAuth, hc, hf, hs, hi, ht]
        rfl
    rw [tail]
    cases hfa : featuresAtAuth sc with
    | none => exact .noFeaturesAtAuth hr hfa
    | some fa =>
      cases hm : fa.mech with
      | false => simpa [hm] using Phase1Path.noMech hr hfa hm
      | true =>
        cases ha : sc.authReply with
        | failure | otherPacket | undecodable =>
          simpa [hm, ha] using Phase1Path.authRefused hr hfa hm (by simp [ha])
        | success =>
          cases ho : sc.open3 with
          | false => simpa [hm, ho] using Phase1Path.noRestartAfterAuth hr hfa hm ha ho
          | true =>
            cases hf3 : sc.feat3 with
            | none => simpa [hm, ho] using Phase1Path.noFeaturesAfterAuth hr hfa hm ha ho hf3
            | some f3 => simpa [hm, ho] using Phase1Path.go hr hfa hm ha ho hf3
  cases hc : sc.conn with
  | dialFail => simpa [phase1, hc] using Phase1Path.dialFail hc
  | headerFail => simpa [phase1, hc] using Phase1Path.headerFail hc
  | ok =>
    cases hf : sc.feat1 with
    | none => simpa [phase1, hc, hf] using Phase1Path.noFeatures hc hf
    | some f1 =>
      cases hs : f1.starttls with
      | false =>
        cases hi : cfg.insecure with
        | false => simpa [phase1, hc, hf, hs, hi] using Phase1Path.tlsMissing hc hf hs hi
        | true => exact sasl (.plain hc hf hs hi)
      | true =>
        cases ht : tlsNegotiated f1 sc with
        | true => exact sasl (.tls hc hf hs ht)
        | false =>
          simp only [phase1, htn]
          cases hi : cfg.insecure with
          | false => simpa [hc, hf, hs, hi, ht] using Phase1Path.tlsFailed hc hf hs ht hi
          | true => simpa [hc, hf, hs, hi, ht] using Phase1Path.tlsBroken hc hf hs ht hi

/-- How the client comes to bind a fresh session: it held no id (or stream management is not advertised), or its
`<resume/>` was refused with `<failed/>`. `pre`, `s'` = what was written by then and the session that is bound. -/
inductive Unresumed (s : Sess) (sec : Bool) (f3 : Features) (sc : Script) : List Write → Sess → Prop
  | notTried (ht : (f3.sm && s.smId != "") = false) : Unresumed s sec f3 sc [] s
  | refused (ht : (f3.sm && s.smId != "") = true) (hr : sc.resumeReply = .failed) :
      Unresumed s sec f3 sc [⟨.resume s.smId s.inbound, sec⟩] s.clearSM

/-- The legacy session step: skipped unless mandatory. `ws` = what it writes when it succeeds. -/
inductive SessDone (sec : Bool) (f3 : Features) (sc : Script) : List Write → Prop
  | skipped (hm : f3.sessionMandatory = false) : SessDone sec f3 sc []
  | ok (hm : f3.sessionMandatory = true) (hs : sc.sessReply = .result) : SessDone sec f3 sc [⟨.session, sec⟩]

/-- The ways `afterAuth` (resume, bind, session, enable) can go: one constructor per exit of the code, with what
the server must have answered and the result it produces. `hq` tests `s.smReq` where the code tests the session it is
about to bind: neither a refused resumption nor the bind touches `smReq`. -/
inductive AfterAuthPath (s : Sess) (sec : Bool) (f3 : Features) (sc : Script) : Result → Prop
  | resumed (ht : (f3.sm && s.smId != "") = true) (hr : sc.resumeReply = .resumedSame) :
      AfterAuthPath s sec f3 sc ⟨.established, [⟨.resume s.smId s.inbound, sec⟩], s, sec, true⟩
  | mismatch (ht : (f3.sm && s.smId != "") = true) (hr : sc.resumeReply ≠ .resumedSame) (hf : sc.resumeReply ≠ .failed) :
      AfterAuthPath s sec f3 sc ⟨.failed false, [⟨.resume s.smId s.inbound, sec⟩], s.clearSM, sec, false⟩
  | bindRefused {pre s'} (hu : Unresumed s sec f3 sc pre s') (hb : sc.bindReply ≠ .resultBind) :
      AfterAuthPath s sec f3 sc ⟨.failed false, pre ++ [⟨.bind, sec⟩], s', sec, false⟩
  | sessRefused {pre s'} (hu : Unresumed s sec f3 sc pre s') (hb : sc.bindReply = .resultBind)
      (hm : f3.sessionMandatory = true) (hs : sc.sessReply ≠ .result) :
      AfterAuthPath s sec f3 sc
        ⟨.failed false, pre ++ [⟨.bind, sec⟩, ⟨.session, sec⟩], { s' with bindJid := sc.bindJid }, sec, false⟩
  | bound {pre s' ws} (hu : Unresumed s sec f3 sc pre s') (hb : sc.bindReply = .resultBind)
      (hs : SessDone sec f3 sc ws) (hq : (f3.sm && s.smReq) = false) :
      AfterAuthPath s sec f3 sc
        ⟨.established, pre ++ ⟨.bind, sec⟩ :: ws, { s' with bindJid := sc.bindJid }, sec, false⟩
  | enabled {pre s' ws c} (hu : Unresumed s sec f3 sc pre s') (hb : sc.bindReply = .resultBind)
      (hs : SessDone sec f3 sc ws) (hq : (f3.sm && s.smReq) = true) (he : sc.enableReply = .enabled c) :
      AfterAuthPath s sec f3 sc
        ⟨.established, pre ++ ⟨.bind, sec⟩ :: ws ++ [⟨.enable, sec⟩],
         { s' with bindJid := sc.bindJid, smId := sc.newSmId, inbound := 0, smReq := s.smReq && c }, sec, false⟩
  | enableFailed {pre s' ws} (hu : Unresumed s sec f3 sc pre s') (hb : sc.bindReply = .resultBind)
      (hs : SessDone sec f3 sc ws) (hq : (f3.sm && s.smReq) = true) (he : sc.enableReply = .failed) :
      AfterAuthPath s sec f3 sc
        ⟨.failed false, pre ++ ⟨.bind, sec⟩ :: ws ++ [⟨.enable, sec⟩],
         { s' with bindJid := sc.bindJid, smId := "", inbound := 0 }, sec, false⟩
  | enableOther {pre s' ws} (hu : Unresumed s sec f3 sc pre s') (hb : sc.bindReply = .resultBind)
      (hs : SessDone sec f3 sc ws) (hq : (f3.sm && s.smReq) = true)
      (he : ∀ c, sc.enableReply ≠ .enabled c) (hef : sc.enableReply ≠ .failed) :
      AfterAuthPath s sec f3 sc
        ⟨.failed false, pre ++ ⟨.bind, sec⟩ :: ws ++ [⟨.enable, sec⟩], { s' with bindJid := sc.bindJid }, sec, false⟩

theorem afterAuth_path (s : Sess) (sec : Bool) (f3 : Features) (sc : Script) :
    AfterAuthPath s sec f3 sc (afterAuth s sec f3 sc) := by
  have bind : ∀ {pre s'}, Unresumed s sec f3 sc pre s' → AfterAuthPath s sec f3 sc (afterAuth s sec f3 sc) := by
    intro pre s' hu
    by_cases hb : sc.bindReply = .resultBind
    · have enable : ∀ {ws}, SessDone sec f3 sc ws → AfterAuthPath s sec f3 sc (afterAuth s sec f3 sc) := by
        intro ws hs
        -- in each case the path `p` is built first, so that `cases hu`, `cases hs` rewrite `pre`, `s'`, `ws` inside it
        cases hq : (f3.sm && s.smReq) with
        | false =>
          have p := AfterAuthPath.bound hu hb hs hq
          cases hu <;> cases hs <;> simpa [afterAuth, Sess.clearSM, *] using p
        | true =>
          cases he : sc.enableReply with
          | enabled c =>
            have p := AfterAuthPath.enabled hu hb hs hq he
            cases hu <;> cases hs <;> simpa [afterAuth, Sess.clearSM, *] using p
          | failed =>
            have p := AfterAuthPath.enableFailed hu hb hs hq he
            cases hu <;> cases hs <;> simpa [afterAuth, Sess.clearSM, *] using p
          | otherPacket | undecodable =>
            have p := AfterAuthPath.enableOther hu hb hs hq (by simp [he]) (by simp [he])
            cases hu <;> cases hs <;> simpa [afterAuth, Sess.clearSM, *] using p
      cases hm : f3.sessionMandatory with
      | false => exact enable (.skipped hm)
      | true =>
        by_cases hs : sc.sessReply = .result
        · exact enable (.ok hm hs)
        · have p := AfterAuthPath.sessRefused hu hb hm hs
          cases hu <;> simpa [afterAuth, *] using p
    · have p := AfterAuthPath.bindRefused hu hb
      cases hu <;> simpa [afterAuth, *] using p
  cases ht : (f3.sm && s.smId != "") with
  | false => exact bind (.notTried ht)
  | true =>
    cases hr : sc.resumeReply with
    | failed => exact bind (.refused ht hr)
    | resumedSame => simpa [afterAuth, ht, hr] using AfterAuthPath.resumed ht hr
    | resumedOther | otherPacket | undecodable =>
      simpa [afterAuth, ht, hr] using AfterAuthPath.mismatch ht (by simp [hr]) (by simp [hr])

inductive NegPath (cfg : Cfg) (s0 : Sess) (sc : Script) : Result → Prop
  | stop {r} (h : Phase1Path cfg s0 sc (.stop r)) : NegPath cfg s0 sc r
  | go {sec f3 pre r} (h1 : Phase1Path cfg s0 sc (.go sec f3 pre)) (h2 : AfterAuthPath (sfix s0) sec f3 sc r) :
      NegPath cfg s0 sc { r with writes := pre ++ r.writes }

theorem negotiate_path (cfg : Cfg) (s0 : Sess) (sc : Script) : NegPath cfg s0 sc (negotiate cfg s0 sc) := by
  have h := phase1_path cfg s0 sc
  unfold negotiate
  cases hp : phase1 cfg s0 sc with
  | stop r => exact .stop (hp ▸ h)
  | go sec f3 pre => exact .go (hp ▸ h) (afterAuth_path _ sec f3 sc)

/-- `path_leaves h`: one goal per leaf of the path `h`, with every optional step (TLS, resumption, legacy session)
decided, so that all write lists are literal. Some combinations cannot occur (after `ReachesAuth.plain` the features at
SASL are the first ones, so `noFeaturesAtAuth` is impossible): those leaves have clashing hypotheses. -/
macro "path_leaves" h:ident : tactic => `(tactic| (
  cases $h:ident
  all_goals try cases ‹Phase1Path _ _ _ _›
  all_goals try cases ‹AfterAuthPath _ _ _ _ _›
  all_goals try cases ‹ReachesAuth _ _ _ _›
  all_goals try cases ‹Unresumed _ _ _ _ _ _›
  all_goals try cases ‹SessDone _ _ _ _›))

theorem AfterAuthPath.writes {s : Sess} {sec : Bool} {f3 : Features} {sc : Script} {r : Result}
    (h : AfterAuthPath s sec f3 sc r) : ∀ w ∈ r.writes, w.secure = sec ∧
      (w.kind = .bind ∨ w.kind = .session ∨ w.kind = .enable ∨ (w.kind = .resume s.smId s.inbound ∧ s.smId ≠ "")) := by
  path_leaves h <;> simp_all

theorem sfix_smId (s0 : Sess) : (sfix s0).smId = heldId s0 := by
  unfold sfix heldId
  cases s0.present <;> simp [Sess.dropped]

theorem sfix_smReq (s0 : Sess) : (sfix s0).smReq = heldSmReq s0 := by
  unfold sfix heldSmReq
  cases s0.present <;> simp [Sess.dropped]

theorem sfix_present (s0 : Sess) : (sfix s0).present = true := by
  unfold sfix
  cases h : s0.present <;> simp [h]

end XmppVerif.Props.Neg

#print axioms XmppVerif.Props.Neg.phase1_path
#print axioms XmppVerif.Props.Neg.afterAuth_path
#print axioms XmppVerif.Props.Neg.negotiate_path
