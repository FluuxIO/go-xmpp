import XmppVerif.Spec.C01Esc
/-
C01, character level: text can never inject markup, and the escaper is inverted by the decoder.
-/
namespace XmppVerif.Props.C01
open XmppVerif.Model.C01 XmppVerif.Spec.C01

private theorem unescape_other (c : Char) (r : List Char) (h : c ≠ '&') : unescape (c :: r) = c :: unescape r := by
  rw [unescape]
  -- the equation of the catch-all arm asks, for every earlier arm, that the head is not `&`
  all_goals exact fun _ e _ => h e

/-- The escaper has two outcomes: one of the eight references, or the character itself (U+FFFD for a non-XML one). -/
private theorem escChar_spec (nl : Bool) (c : Char) :
    (∃ b, escChar nl c = '&' :: b ∧ b ∈ entityBodies ∧
      ∀ r, unescape ('&' :: (b ++ r)) = sanitizeChar c :: unescape r) ∨
    (escChar nl c = [sanitizeChar c] ∧ sanitizeChar c ≠ '&' ∧ isMeta (sanitizeChar c) = false) := by
  by_cases h1 : c = '"'
  · subst h1; exact .inl ⟨_, rfl, by decide, fun _ => rfl⟩
  by_cases h2 : c = '\''
  · subst h2; exact .inl ⟨_, rfl, by decide, fun _ => rfl⟩
  by_cases h3 : c = '&'
  · subst h3; exact .inl ⟨_, rfl, by decide, fun _ => rfl⟩
  by_cases h4 : c = '<'
  · subst h4; exact .inl ⟨_, rfl, by decide, fun _ => rfl⟩
  by_cases h5 : c = '>'
  · subst h5; exact .inl ⟨_, rfl, by decide, fun _ => rfl⟩
  by_cases h6 : c = '\t'
  · subst h6; exact .inl ⟨_, rfl, by decide, fun _ => rfl⟩
  by_cases h7 : c = '\r'
  · subst h7; exact .inl ⟨_, rfl, by decide, fun _ => rfl⟩
  by_cases h8 : c = '\n'
  · subst h8
    cases nl
    · exact .inr ⟨rfl, by decide, by decide⟩
    · exact .inl ⟨_, rfl, by decide, fun _ => rfl⟩
  have he : escChar nl c = [sanitizeChar c] := by
    simp only [escChar, sanitizeChar, h1, h2, h3, h4, h5, h6, h7, h8, if_false]
    split <;> rfl
  refine .inr ⟨he, ?_, ?_⟩
  · unfold sanitizeChar; split
    · exact h3
    · decide
  · unfold sanitizeChar; split
    · simp [isMeta, h1, h2, h4, h5]
    · decide

private theorem entityBodies_plain : ∀ b ∈ entityBodies, ∀ x ∈ b, x ≠ '&' ∧ isMeta x = false := by decide

private theorem startsEntity_body (b r : List Char) (hb : b ∈ entityBodies) : startsEntity (b ++ r) = true := by
  simp only [startsEntity, List.any_eq_true, List.isPrefixOf_iff_prefix]
  exact ⟨b, hb, List.prefix_append b r⟩

private theorem ampsOk_skip (a r : List Char) (h : ∀ x ∈ a, x ≠ '&') : ampsOk (a ++ r) = ampsOk r := by
  induction a with
  | nil => rfl
  | cons x a ih =>
    have hx : (x != '&') = true := by simpa using h x (by simp)
    simp only [List.cons_append, ampsOk, hx, Bool.true_or, Bool.true_and]
    exact ih fun y hy => h y (by simp [hy])

private theorem unescape_escChar (nl : Bool) (c : Char) (r : List Char) :
    unescape (escChar nl c ++ r) = sanitizeChar c :: unescape r := by
  rcases escChar_spec nl c with ⟨b, e, _, hu⟩ | ⟨e, hne, _⟩
  · rw [e]; exact hu r
  · rw [e]; exact unescape_other _ _ hne

private theorem escChar_no_meta (nl : Bool) (c x : Char) (h : x ∈ escChar nl c) : isMeta x = false := by
  rcases escChar_spec nl c with ⟨b, e, hb, _⟩ | ⟨e, _, hm⟩
  · rw [e] at h
    rcases List.mem_cons.mp h with rfl | hx
    · rfl
    · exact (entityBodies_plain b hb x hx).2
  · rw [e, List.mem_singleton] at h
    rw [h]; exact hm

private theorem ampsOk_escChar (nl : Bool) (c : Char) (r : List Char) :
    ampsOk (escChar nl c ++ r) = ampsOk r := by
  rcases escChar_spec nl c with ⟨b, e, hb, _⟩ | ⟨e, hne, _⟩
  · rw [e, List.cons_append, ampsOk, startsEntity_body b r hb]
    exact ampsOk_skip b r fun x hx => (entityBodies_plain b hb x hx).1
  · rw [e]; exact ampsOk_skip _ r fun x hx => by rw [List.mem_singleton.mp hx]; exact hne

/-- Whatever the text contains, the escaped form has no `<`, `>`, `"`, `'`, and every `&` in it starts one of the
eight references `&#34; &#39; &amp; &lt; &gt; &#x9; &#xA; &#xD;`. -/
theorem C01_escape_safe (nl : Bool) (s : List Char) :
    (∀ c ∈ escapeText nl s, isMeta c = false) ∧ ampsOk (escapeText nl s) = true := by
  constructor
  · intro c hc
    simp only [escapeText, List.mem_flatMap] at hc
    obtain ⟨a, _, hx⟩ := hc
    exact escChar_no_meta nl a c hx
  · induction s with
    | nil => rfl
    | cons a s ih => simpa [escapeText, List.flatMap_cons, ampsOk_escChar] using ih

/-- For EVERY string: decoding the escaped form gives the string with non-XML characters replaced by U+FFFD. -/
theorem C01_unescape_escape_all (nl : Bool) (s : List Char) : unescape (escapeText nl s) = sanitize s := by
  induction s with
  | nil => rfl
  | cons a s ih =>
    simp only [escapeText, List.flatMap_cons] at ih ⊢
    rw [unescape_escChar, ih]; rfl

theorem sanitize_legal (s : List Char) (h : legal s = true) : sanitize s = s :=
  (List.map_congr_left fun c hc => if_pos (List.all_eq_true.mp h c hc)).trans (List.map_id s)

/-- For strings of XML-legal characters (CR, LF, TAB, quotes, `]]>`, blanks, astral included) the round trip is exact. -/
theorem C01_unescape_escape (nl : Bool) (s : List Char) (h : legal s = true) :
    unescape (escapeText nl s) = s := by
  rw [C01_unescape_escape_all, sanitize_legal s h]

/-- The oracle accepts the model's escaped form of every string. -/
theorem C01_escape_oracle_accepts_model (nl : Bool) (s : List Char) :
    holdsEscape s (escapeText nl s) = true := by
  have h := C01_escape_safe nl s
  simp only [holdsEscape, Bool.and_eq_true, List.all_eq_true, decide_eq_true_eq]
  refine ⟨⟨fun c hc => by simp [h.1 c hc], h.2⟩, C01_unescape_escape_all nl s⟩

example : escapeText true "a<b>&\"'".toList = "a&lt;b&gt;&amp;&#34;&#39;".toList := by
  -- the kernel decodes a string literal through its UTF-8 bytes, quadratically; this hands it the character list
  repeat rw [String.toList_ofList]
  decide +kernel
example : escapeText true "\t\n\r".toList = "&#x9;&#xA;&#xD;".toList := by
  repeat rw [String.toList_ofList]
  decide +kernel
example : escapeText false "\t\n\r".toList = "&#x9;\n&#xD;".toList := by
  repeat rw [String.toList_ofList]
  decide +kernel
example : escapeText true "]]>".toList = "]]&gt;".toList := by
  repeat rw [String.toList_ofList]
  decide +kernel
example : escapeText true [Char.ofNat 0, Char.ofNat 0xFFFE, Char.ofNat 0x1F600] = [repl, repl, Char.ofNat 0x1F600] := by decide +kernel
example : unescape "&amp;lt;".toList = "&lt;".toList := by
  repeat rw [String.toList_ofList]
  decide +kernel
example : legal " a\r\n ".toList = true ∧ legal [Char.ofNat 0xB] = false := by
  repeat rw [String.toList_ofList]
  decide +kernel
-- the hypothesis of C01_unescape_escape is satisfiable and necessary
example : unescape (escapeText true [Char.ofNat 1]) ≠ [Char.ofNat 1] := by decide +kernel

end XmppVerif.Props.C01

#print axioms XmppVerif.Props.C01.C01_escape_safe
#print axioms XmppVerif.Props.C01.C01_unescape_escape_all
#print axioms XmppVerif.Props.C01.C01_unescape_escape
#print axioms XmppVerif.Props.C01.C01_escape_oracle_accepts_model
