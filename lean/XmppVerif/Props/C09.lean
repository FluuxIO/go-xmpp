import XmppVerif.Props.Recv
import XmppVerif.Spec.RecvObs
/-
C09 - stream management: the reported inbound count equals the number of stanzas received.
-/
namespace XmppVerif.Props.C09
open XmppVerif.Model.Recv XmppVerif.Spec.Recv XmppVerif.Spec.RecvObs XmppVerif.Props.Recv

/-- **Every answer carries the stanza count**: for every inbound history and every starting count, the h values of
the `<a/>` elements the client writes are exactly those of the reference walk that counts stanzas only. -/
theorem C09_answer_h (s : St) (ins : List In) :
    answers (clientRecv s ins).2 = refAnswers s.inbound (processed ins) :=
  (client_facts ins s).answersE

/-- The reference walk, unfolded: the answer to a request preceded by the items `pre` reports
`n + (number of stanzas in pre)` - non-stanza elements in `pre` (requests, answers, features, …) never count. -/
theorem C09_ref_counts_stanzas_only (n : Nat) (pre rest : List In) (f : Bool)
    (hpre : ∀ i ∈ pre, isReq i = false) :
    refAnswers n (pre ++ .pkt .r f :: rest) = (n + stanzaCount pre) :: refAnswers (n + stanzaCount pre) rest := by
  induction pre generalizing n with
  | nil => rfl
  | cons i pre ih =>
    rw [List.cons_append, refAnswers_cons, hpre i List.mem_cons_self, stanzaCount_cons,
      ih _ (fun j hj => hpre j (List.mem_cons_of_mem _ hj)), Nat.add_assoc]
    rfl

/-- The count kept in the session state after any history: start + number of stanzas handled, nothing else. -/
theorem C09_count_is_stanza_count (s : St) (ins : List In) :
    (clientRecv s ins).1.inbound = s.inbound + stanzaCount (processed ins) :=
  (client_facts ins s).inbound

/-- **Across a resumption**: the count is kept in the session state, so the answers on the resumed connection
(history `h2`) go on from the count the first connection (history `h1`) ended with - the count a resumption request
presents in between (`C09_resume_request`). -/
theorem C09_resume_h (s : St) (h1 h2 : List In) :
    answers (clientRecv (clientRecv s h1).1 h2).2
      = refAnswers (s.inbound + stanzaCount (processed h1)) (processed h2) := by
  rw [C09_answer_h, C09_count_is_stanza_count]

/-- Non-stanza elements never change the count (one step). -/
theorem C09_nonstanza_never_counted (s : St) (p : Pkt) (f : Bool) (h : p.isStanza = false) :
    (clientStep s (.pkt p f)).1.inbound = s.inbound := by
  simp [clientStep_state, isStanzaIn, stanzaOf, h]

theorem C09_stanza_counted_once (s : St) (p : Pkt) (f : Bool) (h : p.isStanza = true) :
    (clientStep s (.pkt p f)).1.inbound = s.inbound + 1 := by
  simp [clientStep_state, isStanzaIn, stanzaOf, h]

/-- The C09 oracle accepts the model's observation of every client run (a component keeps no count). -/
theorem C09_oracle_accepts_model (c : Case) (hc : c.client = true) : holdsC09 c (modelSummary c) = true := by
  unfold holdsC09 modelSummary
  have f := client_facts c.ins ⟨c.smId, c.n0⟩
  simp only [hc, if_true, summarise, Bool.not_false, Bool.and_true, Bool.and_eq_true, decide_eq_true_eq,
    List.all_eq_true]
  refine ⟨f.answersE, ?_⟩
  intro d hd
  rw [f.disc, List.mem_singleton] at hd
  rw [hd]
  exact beq_self_eq_true _

/-- **The resumption request carries the stanza count**: after any history on a stream-managed session the
request that follows presents the session's id and `start + number of stanzas received`, nothing else. -/
theorem C09_resume_request (c : Case) : holdsResume c (modelResume c) = true := by
  unfold holdsResume modelResume
  have f := client_facts c.ins ⟨c.smId, c.n0⟩
  simp only [f.smId, f.inbound]
  cases c.smId == "" <;> simp

-- non-vacuity: the design's witness for F-09 (an <a/> before the <r/> must not be counted)
example : answers (clientRecv ⟨"sm", 0⟩ [.pkt (.a 0) false, .pkt .r false, .pkt (.msg "1") false,
    .pkt (.nonza "features") false, .pkt .r false]).2 = [0, 1] := by decide

end XmppVerif.Props.C09

#print axioms XmppVerif.Props.C09.C09_answer_h
#print axioms XmppVerif.Props.C09.C09_ref_counts_stanzas_only
#print axioms XmppVerif.Props.C09.C09_count_is_stanza_count
#print axioms XmppVerif.Props.C09.C09_resume_h
#print axioms XmppVerif.Props.C09.C09_nonstanza_never_counted
#print axioms XmppVerif.Props.C09.C09_stanza_counted_once
#print axioms XmppVerif.Props.C09.C09_oracle_accepts_model
#print axioms XmppVerif.Props.C09.C09_resume_request
