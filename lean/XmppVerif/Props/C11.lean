import XmppVerif.Props.NegLemmas
/-
C11 - stream management: resume only with the previous id and count; drop stale state.
-/
namespace XmppVerif.Props.C11
open XmppVerif.Model.Neg XmppVerif.Spec.Neg XmppVerif.Props.Neg

def tries (s : Sess) (f3 : Features) : Bool := f3.sm && s.smId != ""

/-- **Only with an id, and with exactly the held id and count**: after SASL, a `<resume/>` is written iff stream
management is advertised on the new connection and the session holds an id; it is the first write, and it carries
that id and the session's current inbound count. -/
theorem C11_resume_fields (s : Sess) (sec : Bool) (f3 : Features) (sc : Script) :
    (afterAuth s sec f3 sc).writes.filter (fun w => isResume w.kind) =
      (if tries s f3 then [⟨.resume s.smId s.inbound, sec⟩] else []) := by
  have h := afterAuth_path s sec f3 sc
  generalize afterAuth s sec f3 sc = r at h ⊢
  -- `resumed`, `mismatch` and `Unresumed.refused` write it, first; `Unresumed.notTried` does not
  path_leaves h <;> simp [tries, isResume, *]

/-- **Confirmed with the same id**: the session continues - no bind, identity, id and count unchanged. -/
theorem C11_resumed_keeps (s : Sess) (sec : Bool) (f3 : Features) (sc : Script)
    (ht : tries s f3 = true) (hr : sc.resumeReply = .resumedSame) :
    afterAuth s sec f3 sc = ⟨.established, [⟨.resume s.smId s.inbound, sec⟩], s, sec, true⟩ := by
  -- the path `AfterAuthPath.resumed`, read off the definition
  unfold tries at ht
  unfold afterAuth
  simp [ht, hr]

/-- **Refused** (`<failed/>`): the stale state is dropped and a fresh session is bound - always. -/
theorem C11_refused_then_bind (s : Sess) (sec : Bool) (f3 : Features) (sc : Script)
    (ht : tries s f3 = true) (hr : sc.resumeReply = .failed) :
    (⟨.bind, sec⟩ : Write) ∈ (afterAuth s sec f3 sc).writes ∧
    (afterAuth s sec f3 sc).resumed = false ∧
    ((afterAuth s sec f3 sc).sess.smId = "" ∨
     (isEnabled sc.enableReply = true ∧ (afterAuth s sec f3 sc).sess.smId = sc.newSmId)) := by
  have h := afterAuth_path s sec f3 sc
  generalize afterAuth s sec f3 sc = r at h ⊢
  path_leaves h <;> simp_all [tries, Sess.clearSM, isEnabled]

/-- **Any other answer** (another id, an unexpected element, a broken stream): the connection fails, nothing is
bound, the old session is not continued and its id is forgotten. -/
theorem C11_mismatch_fails_and_clears (s : Sess) (sec : Bool) (f3 : Features) (sc : Script)
    (ht : tries s f3 = true) (hr : sc.resumeReply ≠ .resumedSame) (hf : sc.resumeReply ≠ .failed) :
    afterAuth s sec f3 sc = ⟨.failed false, [⟨.resume s.smId s.inbound, sec⟩], s.clearSM, sec, false⟩ := by
  -- the path `AfterAuthPath.mismatch`, read off the definition
  unfold tries at ht
  unfold afterAuth
  cases hrr : sc.resumeReply <;> simp_all

/-- the id the client holds at the end of a connection, as a function of what the server did: unchanged after a
confirmed resumption or when no SM step was reached; the new id after `<enabled/>`; nothing after a refusal, an
unexpected answer, a failed `<enable/>`, or when the session object was lost. -/
theorem C11_never_without_id (s : Sess) (sec : Bool) (f3 : Features) (sc : Script) (h : s.smId = "") :
    (afterAuth s sec f3 sc).writes.filter (fun w => isResume w.kind) = [] := by
  rw [C11_resume_fields]; simp [tries, h]

/-- Ghost reading of "stale", over observations only: `g` is the id of the latest `<enabled/>` that has not been
refused since (or "" when there is none). After a connection with server behaviour `sc` and observed result `r`:
unchanged after a confirmed resumption or when no SM step was reached; the new id after `<enabled/>`; nothing after a
refusal, an unexpected answer, a failed `<enable/>`, or when the session object was lost. -/
def ghostNext (g : String) (sc : Script) (r : Result) : String :=
  if !r.sess.present then ""
  else if r.writes.any (fun w => w.kind == .enable) then
    (match sc.enableReply with
     | .enabled _ => sc.newSmId
     | .failed => ""
     | _ => if r.writes.any (fun w => isResume w.kind) then "" else g)   -- a resume before an enable was refused
  else if r.writes.any (fun w => isResume w.kind) then
    (if sc.resumeReply == .resumedSame then g else "")
  else g

/-- **The held id is the ghost**: after any connection, whatever the server did, the id the client holds equals
the ghost computed from the observations. -/
theorem C11_held_is_ghost (cfg : Cfg) (s0 : Sess) (sc : Script) :
    heldId (negotiate cfg s0 sc).sess = ghostNext (heldId s0) sc (negotiate cfg s0 sc) := by
  have h := negotiate_path cfg s0 sc
  generalize negotiate cfg s0 sc = r at h ⊢
  cases h with
  | stop h =>
    have hs : r.writes.any (fun w => w.kind == .enable) = false ∧ r.writes.any (fun w => isResume w.kind) = false ∧
        (r.sess = s0 ∨ r.sess = s0.dropped ∨ r.sess = sfix s0) := by
      path_leaves h <;> simp [isResume]
    simp only [ghostNext, hs.1, hs.2.1]
    cases hp : s0.present <;> rcases hs.2.2 with e | e | e <;> simp [e, heldId, sfix, Sess.dropped, hp]
  | @go _ _ pre _ h1 h2 =>
    have hpre : pre.any (fun w => w.kind == .enable) = false ∧ pre.any (fun w => isResume w.kind) = false := by
      cases h1 with | go hr => cases hr <;> exact ⟨rfl, rfl⟩
    simp only [ghostNext, List.any_append, hpre, Bool.false_or]
    -- the writes and replies `ghostNext` looks at tell the paths of `afterAuth` apart
    path_leaves h2 <;> simp [heldId, isResume, Sess.clearSM, sfix_present, sfix_smId, *]

/-- ghost value before each connection of a history -/
def ghostSeq (cfg : Cfg) (s : Sess) (g : String) : List Script → List String
  | [] => []
  | sc :: rest => g :: ghostSeq cfg (negotiate cfg s sc).sess (ghostNext g sc (negotiate cfg s sc)) rest

def ResumeOnlyGhost : List Result → List String → Prop
  | r :: rs, g :: gs => (∀ w ∈ r.writes, ∀ p h, w.kind = .resume p h → p = g ∧ g ≠ "") ∧ ResumeOnlyGhost rs gs
  | [], [] => True
  | _, _ => False

/-- **Stale ids are never presented again** (every history of connections): on the k-th connection a `<resume/>`
is written only with the ghost id - the id of the latest `<enabled/>` not refused since - and never with an empty one;
in particular after a refusal, a mismatch or any other answer, the refused id does not reappear unless the server
itself hands it out again in a new `<enabled/>`. -/
theorem C11_stale_never_again (cfg : Cfg) (scripts : List Script) : ∀ (s : Sess),
    ResumeOnlyGhost (connectAll cfg s scripts) (ghostSeq cfg s (heldId s) scripts) := by
  induction scripts with
  | nil => intro s; exact True.intro
  | cons sc rest ih =>
    intro s
    simp only [connectAll, ghostSeq, ResumeOnlyGhost]
    refine ⟨?_, C11_held_is_ghost cfg s sc ▸ ih (negotiate cfg s sc).sess⟩
    have h := negotiate_path cfg s sc
    generalize negotiate cfg s sc = r at h ⊢
    cases h with
    | stop h => path_leaves h <;> simp
    | @go _ _ pre _ h1 h2 =>
      -- a `<resume/>` is written only by the post-SASL steps, and then with the id the session holds
      have hpre : ∀ w ∈ pre, ∀ p i, w.kind ≠ .resume p i := by
        cases h1 with | go hr => cases hr <;> simp
      intro w hw p i hk
      rcases List.mem_append.mp hw with hw | hw
      · exact absurd hk (hpre w hw p i)
      · -- bind, session and enable are no `<resume/>`; the one `<resume/>` carries `(sfix s).smId`, which is not empty
        obtain ⟨_, hw | hw | hw | ⟨hw, hne⟩⟩ := h2.writes w hw <;> rw [hw] at hk <;> cases hk
        exact ⟨sfix_smId s, sfix_smId s ▸ hne⟩

example : (afterAuth ⟨true, "sm-A", 5, "j", true⟩ true ⟨false, true, true, false⟩
    { conn := .ok, feat1 := none, tlsReply := .proceed, tlsOk := true, open2 := true, feat2 := none, authReply := .success,
      open3 := true, feat3 := none, resumeReply := .failed, bindReply := .resultBind, sessReply := .result,
      enableReply := .enabled true, newSmId := "sm-B", bindJid := "j2" }).writes
    = [⟨.resume "sm-A" 5, true⟩, ⟨.bind, true⟩, ⟨.enable, true⟩] := by decide

end XmppVerif.Props.C11

#print axioms XmppVerif.Props.C11.C11_resume_fields
#print axioms XmppVerif.Props.C11.C11_resumed_keeps
#print axioms XmppVerif.Props.C11.C11_refused_then_bind
#print axioms XmppVerif.Props.C11.C11_mismatch_fails_and_clears
#print axioms XmppVerif.Props.C11.C11_never_without_id
#print axioms XmppVerif.Props.C11.C11_held_is_ghost
#print axioms XmppVerif.Props.C11.C11_stale_never_again
