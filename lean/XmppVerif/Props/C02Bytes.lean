import XmppVerif.Proofs.C02BytesRoundTrip
import XmppVerif.Proofs.C02BytesCanon
import XmppVerif.Props.C02
/-
C02, stage B (byte level; "bytes" = code points after UTF-8 decoding, see Model/C02Bytes.lean): the property theorems
about the character-level model of encoding/xml's tokenizer, and their composition with the token-level theorems of
Props/C02.lean (bytes -> tokens -> packets). The lemmas about the tokenizer itself are in Proofs/C02Bytes*.lean.

  (a) round trip of printer and lexer for every source forest a peer may write: C02B_roundtrip, C02B_roundtrip_document
  (b) rendered bytes -> tokenizer -> packet model, one packet per top-level element: C02B_stream_packets,
      C02B_open_stream_packets; coverage, the token-level forests this reaches: C02B_canonical_source,
      C02B_stream_packets_of_trees
  (c) the tokens do not depend on how the input is cut into reads: C02B_segmentation, C02B_delivered
  (d) every input ends in tokens and one outcome, truncation never changes a complete token: C02B_total,
      C02B_prefix_monotone, C02B_truncation
-/
namespace XmppVerif.Props.C02Bytes
open XmppVerif.Model.C02 XmppVerif.Model.C02Bytes XmppVerif.Spec.C02 XmppVerif.Spec.C02Bytes XmppVerif.Proofs.C02Bytes
open XmppVerif.Props.C02 (C02_one_per_element C02_stream packets_close packets_nil)

/-- **Round trip.** A decoder in ANY state (open elements and namespace bindings `st`) that reads the rendering of ANY
source forest `ts` - every element spelled with its own prefixes, declarations, quote kinds and white space, every
character of text or attribute value written raw, as a predefined entity or as a decimal / hexadecimal reference, CDATA
sections, comments, processing instructions - followed by ANY further input, delivers exactly the tokens of the forest,
names resolved against the declarations in scope, and is then in the same state in front of the rest.
(`lastIsText`: character data at the very end is only complete once a `<` follows.) -/
theorem C02B_roundtrip (ts : List STree) (st : Stack) (rest : List Char)
    (hok : okL ts = true) (hlast : lastIsText ts = true → StartsLt rest) :
    tokenizeFrom .content st (renderL ts ++ rest) = (tokenizeFrom .content st rest).pre (btoksL (curEnv st) ts) :=
  rt_list ts st rest hok hlast

/-- a whole document: the forest alone, read by a fresh decoder up to the end of the input -/
theorem C02B_roundtrip_document (ts : List STree) (hok : okL ts = true) (hlast : lastIsText ts = false) :
    tokenize (renderL ts) = ⟨btoksL [] ts, .eof, false⟩ := by
  have := C02B_roundtrip ts [] [] hok (by simp [hlast])
  simp only [List.append_nil] at this
  simp [tokenize, this, tokenizeFrom_nil, Result.pre, endStop, curEnv]

/-- the tokens of a source forest, in the alphabet of the packet model, are the tokens of its resolved tree -/
theorem C02B_tokens_of_resolved (env : Env) (ts : List STree) : eraseL (btoksL env ts) = toksL (resolveL env ts) :=
  erase_list env ts

def treeItems (ts : List Tree) : List Item := ts.map Item.tree

theorem itemsToks_trees (ts : List Tree) : itemsToks (treeItems ts) = toksL ts := by
  induction ts with
  | nil => rfl
  | cons t ts ih => simp [treeItems, itemsToks, Item.toks, toksL] at ih ⊢; rw [ih]

theorem itemsToks_append (a b : List Item) : itemsToks (a ++ b) = itemsToks a ++ itemsToks b := by
  induction a with
  | nil => rfl
  | cons i is ih => simp [itemsToks, ih]

/-- the tokens of a complete stream: declaration, header, the items, optionally the closing tag -/
theorem C02B_stream_tokens (q : QName) (as : List SAttr) (tail : List Char) (items : List STree) (closed : Bool)
    (hq : qnameOk q = true) (has : as.all SAttr.ok = true) (ht : wsOk tail = true)
    (hok : okL items = true) (hlast : lastIsText items = true → closed = true) :
    tokenize (xmlDecl ++ (renderOpen q as tail ++ (renderL items ++ (if closed then renderClose q else [])))) =
      ⟨.pi "xml" "version='1.0'" :: startTok [] q as ::
          (btoksL (envOf [] as) items ++ (if closed then [stopTok [] q as] else [])),
        if closed then .eof else .unexpectedEof, false⟩ := by
  unfold tokenize
  rw [tok_xmlDecl, tok_header q as tail [] _ hq has ht]
  cases closed with
  | true =>
    simp only [if_true]
    rw [C02B_roundtrip items _ (renderClose q) hok (fun _ => ⟨_, rfl⟩)]
    have := tok_close q (envOf (curEnv []) as) [] [] hq
    simp only [List.append_nil] at this
    rw [this, tokenizeFrom_nil]
    simp [Result.pre, endStop, curEnv, stopTok]
  | false =>
    simp only [Bool.false_eq_true, if_false, List.append_nil]
    have := C02B_roundtrip items [⟨q, envOf (curEnv []) as⟩] [] hok (fun h => nomatch hlast h)
    simp only [List.append_nil] at this
    rw [this, tokenizeFrom_nil]
    simp [Result.pre, endStop, curEnv]

/-- **Composition with the token-level theorem.** For every stream a peer may write - XML declaration, a header that
binds the stream namespace, any source forest of top-level items whose resolved elements are in the dispatch table and
well typed (the hypotheses of C02_one_per_element), then the closing tag - reading the BYTES through the tokenizer
model, dropping what InitStream consumes (declaration and header), and running the packet model yields exactly one
packet per top-level element, of the right kind, in order, then the stream-close packet, then the end of the input. -/
theorem C02B_stream_packets (q : QName) (as : List SAttr) (tail : List Char) (items : List STree)
    (hq : qnameOk q = true) (has : as.all SAttr.ok = true) (ht : wsOk tail = true) (hok : okL items = true)
    (hstream : mkName (translate (envOf [] as) true q) = streamEnd)
    (hd : dispatchable (treeItems (resolveL (envOf [] as) items)) = true)
    (hty : typedOk (treeItems (resolveL (envOf [] as) items)) = true) :
    packets (eraseL ((tokenize (xmlDecl ++ (renderOpen q as tail ++ (renderL items ++ renderClose q)))).toks.drop 2)) =
      expected (treeItems (resolveL (envOf [] as) items)) ++ [.pkt closePacket, .err .eof] := by
  have := C02B_stream_tokens q as tail items true hq has ht hok (fun _ => rfl)
  simp only [if_true] at this
  rw [this]
  simp only [List.drop_succ_cons, List.drop_zero, eraseL, List.map_append, List.map_cons, List.map_nil]
  have he := C02B_tokens_of_resolved (envOf [] as) items
  simp only [eraseL] at he
  rw [he, ← itemsToks_trees]
  have hs : BTok.erase (stopTok [] q as) = Tok.stop streamEnd := by simp [stopTok, BTok.erase, hstream]
  rw [hs, C02_one_per_element _ _ hd hty, packets_close, packets_nil]

/-- the same while the stream is still open (no closing tag yet, the forest not ending in character data): the
packets, then the end of the input -/
theorem C02B_open_stream_packets (q : QName) (as : List SAttr) (tail : List Char) (items : List STree)
    (hq : qnameOk q = true) (has : as.all SAttr.ok = true) (ht : wsOk tail = true) (hok : okL items = true)
    (hlast : lastIsText items = false)
    (hd : dispatchable (treeItems (resolveL (envOf [] as) items)) = true)
    (hty : typedOk (treeItems (resolveL (envOf [] as) items)) = true) :
    packets (eraseL ((tokenize (xmlDecl ++ (renderOpen q as tail ++ renderL items))).toks.drop 2)) =
      expected (treeItems (resolveL (envOf [] as) items)) ++ [.err .eof] := by
  have := C02B_stream_tokens q as tail items false hq has ht hok (by simp [hlast])
  simp only [Bool.false_eq_true, if_false, List.append_nil] at this
  rw [this]
  simp only [List.drop_succ_cons, List.drop_zero]
  rw [C02B_tokens_of_resolved, ← itemsToks_trees]
  exact C02_stream _ hd hty

/-- **Coverage.** Every token-level forest (Model.C02.Tree) for which the computable `unTreeL` finds a canonical
spelling - elements in the default namespace in force or named by an undeclared prefix, attributes unprefixed or
`xmlns:p` declarations, ASCII NCNames, strings of XML characters, no empty or adjacent character data - IS the
resolution of a source forest in the class of the round-trip theorem. -/
theorem C02B_canonical_source (env : Env) (ts : List Tree) (ss : List STree) (h : unTreeL env ts = some ss) :
    okL ss = true ∧ resolveL env ss = ts :=
  unTreeL_spec env ts ss h

/-- (b) stated from the token side: for every token forest with a canonical spelling that satisfies the hypotheses of
the token-level theorem, there are bytes - its canonical rendering inside a stream - that the tokenizer model and
the packet model read back as exactly one packet per top-level element of THAT forest -/
theorem C02B_stream_packets_of_trees (q : QName) (as : List SAttr) (tail : List Char) (ts : List Tree) (ss : List STree)
    (hq : qnameOk q = true) (has : as.all SAttr.ok = true) (ht : wsOk tail = true)
    (hs : unTreeL (envOf [] as) ts = some ss)
    (hstream : mkName (translate (envOf [] as) true q) = streamEnd)
    (hd : dispatchable (treeItems ts) = true) (hty : typedOk (treeItems ts) = true) :
    packets (eraseL ((tokenize (xmlDecl ++ (renderOpen q as tail ++ (renderL ss ++ renderClose q)))).toks.drop 2)) =
      expected (treeItems ts) ++ [.pkt closePacket, .err .eof] := by
  obtain ⟨hok, rfl⟩ := C02B_canonical_source _ ts ss hs
  exact C02B_stream_packets q as tail ss hq has ht hok hstream hd hty

/-- **Segmentation.** However the input is cut into reads - any list of chunks, empty ones included - the incremental
decoder (`feed` per read: append to the buffer, deliver every token that is complete, keep the rest) followed by the
end of the input yields exactly what the one-shot tokenizer yields on the concatenation: same tokens, same final
outcome. -/
theorem C02B_segmentation (chunks : List (List Char)) :
    finish (chunks.foldl feed XmppVerif.Model.C02Bytes.Dec.init) = tokenize chunks.flatten := by
  rw [finish_eq_sem, feedAll_sem]
  simp [sem, XmppVerif.Model.C02Bytes.Dec.init, tokenize, Result.pre]

/-- two segmentations of the same bytes give the same result -/
theorem C02B_segmentation_free (c1 c2 : List (List Char)) (h : c1.flatten = c2.flatten) :
    finish (c1.foldl feed XmppVerif.Model.C02Bytes.Dec.init) = finish (c2.foldl feed XmppVerif.Model.C02Bytes.Dec.init) := by
  rw [C02B_segmentation, C02B_segmentation, h]

/-- **Promptness.** What the incremental decoder has delivered after any sequence of reads - before it knows whether
more input will come - is exactly the list of COMPLETE tokens of the bytes received so far: every token whose last
character (for character data: the `<` that ends it) has arrived, and nothing else. -/
theorem C02B_delivered (chunks : List (List Char)) :
    (chunks.foldl feed XmppVerif.Model.C02Bytes.Dec.init).out = (tokenize chunks.flatten).complete := by
  rcases List.eq_nil_or_concat chunks with rfl | ⟨cs, c, rfl⟩
  · rfl
  · -- the last read drains the buffer (`drain_out`); what it starts from means the chunks before it (`feedAll_sem`)
    have hs := congrArg Result.complete (feedAll_sem cs XmppVerif.Model.C02Bytes.Dec.init c)
    simp only [sem] at hs
    rw [complete_pre, complete_pre] at hs
    rw [List.concat_eq_append, List.foldl_append, List.foldl_cons, List.foldl_nil, feed, drain_out _ _ (by simp), hs]
    simp [tokenize, XmppVerif.Model.C02Bytes.Dec.init]

/-- **Totality.** For EVERY input the tokenizer model terminates with finitely many tokens - at most two per
character - followed by exactly one outcome, which is never the fuel marker: io.EOF at a token boundary with nothing
open, unexpected EOF, a syntax error, or the explicit `unsupported` marker. (The model is a total function; this says
its fuel always suffices and bounds its output. It says nothing about the Go decoder's own termination: sampled.) -/
theorem C02B_total (cs : List Char) :
    (tokenize cs).stop ≠ .fuel ∧ (tokenize cs).toks.length ≤ 2 * cs.length :=
  ⟨tokenize_no_fuel _ _ _, tokenizeFrom_bound _ _ _⟩

/-- **Truncation / prefix monotonicity.** The complete tokens of an input are a prefix of the complete tokens of every
extension of it: cutting a stream at any offset never yields more or different complete tokens than the full stream
has at those positions (only character data that the cut itself ended is not `complete`). In any decoder state. -/
theorem C02B_prefix_monotone (m : Mode) (st : Stack) (a b : List Char) :
    (tokenizeFrom m st a).complete <+: (tokenizeFrom m st (a ++ b)).complete :=
  complete_mono m st a b

/-- every truncation of an input: its complete tokens are an initial segment of the tokens of the whole -/
theorem C02B_truncation (cs : List Char) (n : Nat) : (tokenize (cs.take n)).complete <+: (tokenize cs).toks := by
  have h := C02B_prefix_monotone .content [] (cs.take n) (cs.drop n)
  rw [List.take_append_drop] at h
  exact List.IsPrefix.trans h (complete_prefix _)

/-- a truncated stream never yields a packet the full stream does not yield at that position, as far as the packet
model has been given complete tokens: the complete tokens of the cut stream followed by the missing ones are the
tokens of the full stream -/
theorem C02B_truncation_extends (cs : List Char) (n : Nat) :
    ∃ more, (tokenize cs).toks = (tokenize (cs.take n)).complete ++ more := by
  obtain ⟨more, h⟩ := C02B_truncation cs n
  exact ⟨more, h.symm⟩

/-- one lexical step never looks beyond the characters it needs: its result on an input is its result on every
extension (the lemma behind (c) and (d)) -/
theorem C02B_step_stable (m : Mode) (a b : List Char) (v : Mode × Ev) (r : List Char) (h : lexStep m a = .ok v r) :
    r.length < a.length ∧ lexStep m (a ++ b) = .ok v (r ++ b) :=
  ⟨(good1_lexStep m a v r h).1, (good1_lexStep m a v r h).2 b⟩

def raws (s : String) : List Piece := s.toList.map .raw
def sp : List Char := [' ']
def attr (pfx loc : String) (dq : Bool) (val : List Piece) : SAttr := ⟨sp, ⟨pfx.toList, loc.toList⟩, [], [], dq, val⟩

/-- `<message to="a&amp;b" xml:lang = 'en' ><body>1 &lt; 2 &#x26; 3 &#0062; 2 ]]&gt;</body><x xmlns='urn:u' p:k="v"
xmlns:p='urn:p'/><!-- c --><![CDATA[<z>&]]><?pi d?><u:y>tail</u:y></message >`, then white space, then
`<stream:features/>`: both quote kinds, white space around `=` and before `>`, entities, hexadecimal and decimal
references with leading zeros, a raw `>`, a prefix used before its declaration, an undeclared prefix -/
def sampleForest : List STree := [
  .elem ⟨[], "message".toList⟩
    [attr "" "to" true (raws "a" ++ [.named .amp] ++ raws "b"),
     ⟨sp, ⟨"xml".toList, "lang".toList⟩, sp, sp, false, raws "en"⟩] sp
    [.elem ⟨[], "body".toList⟩ [] []
       [.text (raws "1 " ++ [.named .lt] ++ raws " 2 " ++ [.num true "26".toList] ++ raws " 3 " ++ [.num false "0062".toList]
               ++ raws " 2 ]]" ++ [.named .gt])] [],
     .empty ⟨[], "x".toList⟩ [attr "" "xmlns" false (raws "urn:u"), attr "p" "k" true (raws "v"),
                              attr "xmlns" "p" false (raws "urn:p")] [],
     .comment " c ".toList, .cdata "<z>&".toList, .pi "pi".toList sp "d".toList,
     .elem ⟨"u".toList, "y".toList⟩ [] [] [.text (raws "tail")] []] sp,
  .text (raws "\n"),
  .empty ⟨"stream".toList, "features".toList⟩ [] []]

def streamQ : QName := ⟨"stream".toList, "stream".toList⟩
def streamAttrs : List SAttr := [attr "" "xmlns" false (raws "jabber:client"),
  attr "xmlns" "stream" false (raws "http://etherx.jabber.org/streams"), attr "" "id" true (raws "s1")]

example : okL sampleForest = true ∧ lastIsText sampleForest = false := by decide +kernel
example : String.ofList (renderL sampleForest) =
    "<message to=\"a&amp;b\" xml:lang = 'en' ><body>1 &lt; 2 &#x26; 3 &#0062; 2 ]]&gt;</body><x xmlns='urn:u' p:k=\"v\" xmlns:p='urn:p'/><!-- c --><![CDATA[<z>&]]><?pi d?><u:y>tail</u:y></message >\n<stream:features/>" := by
  -- the kernel decodes a string literal through its UTF-8 bytes, position by position (quadratic), and compares strings
  -- as byte arrays: `String.toList_ofList` hands it the list of characters of the literal instead
  rw [← String.toList_inj, String.toList_ofList, String.toList_ofList]
  decide +kernel
/-- (a) on the sample, inside the stream header: the tokens a Go decoder returns -/
example : (tokenizeFrom .content [⟨streamQ, envOf [] streamAttrs⟩] (renderL sampleForest)).toks =
    [.start ⟨"jabber:client", "message"⟩ [⟨⟨"", "to"⟩, "a&b"⟩, ⟨⟨"http://www.w3.org/XML/1998/namespace", "lang"⟩, "en"⟩],
     .start ⟨"jabber:client", "body"⟩ [], .text "1 < 2 & 3 > 2 ]]>", .stop ⟨"jabber:client", "body"⟩,
     .start ⟨"urn:u", "x"⟩ [⟨⟨"", "xmlns"⟩, "urn:u"⟩, ⟨⟨"urn:p", "k"⟩, "v"⟩, ⟨⟨"xmlns", "p"⟩, "urn:p"⟩], .stop ⟨"urn:u", "x"⟩,
     .comment " c ", .text "<z>&", .pi "pi" "d",
     .start ⟨"u", "y"⟩ [], .text "tail", .stop ⟨"u", "y"⟩,
     .stop ⟨"jabber:client", "message"⟩, .text "\n",
     .start ⟨"http://etherx.jabber.org/streams", "features"⟩ [], .stop ⟨"http://etherx.jabber.org/streams", "features"⟩] := by
  decide +kernel
/-- (b): the hypotheses of C02B_stream_packets hold for the sample stream; the packets its conclusion names -/
example : qnameOk streamQ = true ∧ streamAttrs.all SAttr.ok = true ∧
    mkName (translate (envOf [] streamAttrs) true streamQ) = streamEnd ∧
    dispatchable (treeItems (resolveL (envOf [] streamAttrs) sampleForest)) = true ∧
    typedOk (treeItems (resolveL (envOf [] streamAttrs) sampleForest)) = true := by decide +kernel
example : expected (treeItems (resolveL (envOf [] streamAttrs) sampleForest)) =
    [.pkt ⟨.message, "", "", "", "a&b", "1 < 2 & 3 > 2 ]]>"⟩, .pkt ⟨.streamFeatures, "", "", "", "", ""⟩] := by decide +kernel
/-- coverage, after the token-level sample of Props/C02.lean: the message (a same-named descendant under an element
named by the undeclared prefix `u`), the white space, and `<a>` once it carries the declaration of its namespace;
without it, like the iq with its pubsub#owner payload, it has no canonical spelling -/
example : (unTreeL (envOf [] streamAttrs)
    [.elem ⟨nsClient, "message"⟩ [⟨⟨"", "id"⟩, "m1"⟩, ⟨⟨"", "to"⟩, "a@b"⟩]
       [.elem ⟨"u", "x"⟩ [] [.elem ⟨nsClient, "message"⟩ [] [.elem ⟨nsClient, "body"⟩ [] [.text "no"]]],
        .elem ⟨nsClient, "body"⟩ [] [.text "y<e>s"]],
     .text " ",
     .elem ⟨nsSM, "a"⟩ [⟨⟨"", "xmlns"⟩, nsSM⟩, ⟨⟨"", "h"⟩, "12"⟩] []]).map (fun ss => String.ofList (renderL ss)) =
    some "<message id=\"m1\" to=\"a@b\"><u:x><message><body>no</body></message></u:x><body>y&lt;e&gt;s</body></message> <a xmlns=\"urn:xmpp:sm:3\" h=\"12\"></a>" := by
  rw [show (fun ss => String.ofList (renderL ss)) = String.ofList ∘ renderL from rfl, ← Option.map_map, Option.map_eq_some_iff]
  refine ⟨_, ?_, String.ofList_toList⟩
  rw [String.toList_ofList]
  decide +kernel
example : unTreeL (envOf [] streamAttrs) [.elem ⟨nsSM, "a"⟩ [⟨⟨"", "h"⟩, "12"⟩] []] = none := by decide +kernel

/-- (c): a tag cut in the middle of an attribute value, an entity cut in the middle, an empty read -/
example : finish (["<a x='".toList, "1&am".toList, [], "p;'>t</a".toList, ">".toList].foldl feed XmppVerif.Model.C02Bytes.Dec.init)
    = tokenize "<a x='1&amp;'>t</a>".toList := by
  repeat rw [String.toList_ofList]
  decide +kernel
example : (["<a x='".toList, "1&am".toList, [], "p;'>t".toList].foldl feed XmppVerif.Model.C02Bytes.Dec.init).out
    = [.start ⟨"", "a"⟩ [⟨⟨"", "x"⟩, "1&"⟩]] := by
  repeat rw [String.toList_ofList]
  decide +kernel
/-- (d): each outcome occurs; truncated character data is not complete; malformed input is an error, not a guess -/
example : (tokenize []).stop = .eof ∧ (tokenize "<a>".toList).stop = .unexpectedEof ∧
    (tokenize "<a></b>".toList).stop = .syntax ∧ (tokenize "<a>&bogus;</a>".toList).stop = .syntax ∧
    (tokenize "<a b='1' c=2/>".toList).stop = .syntax ∧ (tokenize "<a>]]></a>".toList).stop = .syntax ∧
    (tokenize "<p:a xmlns:p='u'></q:a>".toList).stop = .syntax ∧
    (tokenize "<!DOCTYPE x><a/>".toList).stop = .unsupported "directive" := by
  repeat rw [String.toList_ofList]
  decide +kernel
example : (tokenize "<a>xy".toList).toks = [.start ⟨"", "a"⟩ [], .text "xy"] ∧ (tokenize "<a>xy".toList).cut = true ∧
    (tokenize "<a>xy".toList).complete = [.start ⟨"", "a"⟩ []] ∧
    (tokenize "<a>xyz</a>".toList).toks = [.start ⟨"", "a"⟩ [], .text "xyz", .stop ⟨"", "a"⟩] := by
  repeat rw [String.toList_ofList]
  decide +kernel
/-- namespace resolution as Decoder.Token does it: the default namespace applies to elements only, the innermost
declaration wins, `xmlns=""` resets, an undeclared prefix is kept as the space, `xml:` is predeclared -/
example : (tokenize "<a xmlns='u' b='1'><c xmlns='v' xmlns:p='w'><p:d p:e='2'/></c><f xmlns=''/><q:g xml:h='3'/></a>".toList).toks =
    [.start ⟨"u", "a"⟩ [⟨⟨"", "xmlns"⟩, "u"⟩, ⟨⟨"", "b"⟩, "1"⟩],
     .start ⟨"v", "c"⟩ [⟨⟨"", "xmlns"⟩, "v"⟩, ⟨⟨"xmlns", "p"⟩, "w"⟩],
     .start ⟨"w", "d"⟩ [⟨⟨"w", "e"⟩, "2"⟩], .stop ⟨"w", "d"⟩, .stop ⟨"v", "c"⟩,
     .start ⟨"", "f"⟩ [⟨⟨"", "xmlns"⟩, ""⟩], .stop ⟨"", "f"⟩,
     .start ⟨"q", "g"⟩ [⟨⟨"http://www.w3.org/XML/1998/namespace", "h"⟩, "3"⟩], .stop ⟨"q", "g"⟩,
     .stop ⟨"u", "a"⟩] := by
  rw [String.toList_ofList]
  decide +kernel

end XmppVerif.Props.C02Bytes
#print axioms XmppVerif.Props.C02Bytes.C02B_roundtrip
#print axioms XmppVerif.Props.C02Bytes.C02B_roundtrip_document
#print axioms XmppVerif.Props.C02Bytes.C02B_tokens_of_resolved
#print axioms XmppVerif.Props.C02Bytes.C02B_stream_tokens
#print axioms XmppVerif.Props.C02Bytes.C02B_stream_packets
#print axioms XmppVerif.Props.C02Bytes.C02B_open_stream_packets
#print axioms XmppVerif.Props.C02Bytes.C02B_canonical_source
#print axioms XmppVerif.Props.C02Bytes.C02B_stream_packets_of_trees
#print axioms XmppVerif.Props.C02Bytes.C02B_segmentation
#print axioms XmppVerif.Props.C02Bytes.C02B_segmentation_free
#print axioms XmppVerif.Props.C02Bytes.C02B_delivered
#print axioms XmppVerif.Props.C02Bytes.C02B_total
#print axioms XmppVerif.Props.C02Bytes.C02B_prefix_monotone
#print axioms XmppVerif.Props.C02Bytes.C02B_truncation
#print axioms XmppVerif.Props.C02Bytes.C02B_truncation_extends
#print axioms XmppVerif.Props.C02Bytes.C02B_step_stable
