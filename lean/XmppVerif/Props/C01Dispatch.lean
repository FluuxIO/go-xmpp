import XmppVerif.Proofs.C01Dispatch
/-
C01: PubSubOwner and PubSubEvent - registered types whose hand-written UnmarshalXML dispatches on the child's local
name to a reflection-coded struct. One theorem for every dispatcher (its well-formedness, which the statement asks, is
not used: the loop never compares the dispatcher's own name) and every value of the class
(`DVal.wf`: no ResultSet - F-01l -, the interface field nil or a fitting value of a type with a well-formed schema and
a TAGGED XMLName whose local name is the label of the arm decoding that type - F-01k otherwise), two instances.
-/
namespace XmppVerif.Props.C01S
open XmppVerif.Model.C01
open XmppVerif.Model.C01S XmppVerif.Spec.C01 XmppVerif.Proofs.C01 XmppVerif.Proofs.C01S

theorem C01_roundtrip_dispatch (d : DSpec) (hd : d.wf = true) (ctx : Str) (v : DVal) (rest : List Tok)
    (hv : v.wf d = true) : unmarshalWith (decDispatch d) (marshalX ctx (encDispatch d) v ++ rest) = some (v, rest) :=
  unmarshalWith_toks _ _ v rest ⟨_, _, _, viewS_elem ctx _ _ _⟩ (dispatch_rt d ctx v hv)

theorem C01_reserialise_dispatch (d : DSpec) (hd : d.wf = true) (ctx : Str) (v : DVal) (hv : v.wf d = true) :
    (unmarshalWith (decDispatch d) (marshalX ctx (encDispatch d) v)).map (fun r => render (encDispatch d r.1)) =
      some (render (encDispatch d v)) :=
  reserialise (fun x => render (encDispatch d x)) (C01_roundtrip_dispatch d hd ctx v [] hv)

theorem C01_roundtrip_PubSubOwner (ctx : Str) (v : DVal) (rest : List Tok) (hv : v.wf dPubSubOwner = true) :
    unmarshalWith (decDispatch dPubSubOwner) (marshalX ctx (encDispatch dPubSubOwner) v ++ rest) = some (v, rest) :=
  unmarshalWith_toks _ _ v rest ⟨_, _, _, viewS_elem ctx _ _ _⟩ (dispatch_rt _ ctx v hv)

theorem C01_roundtrip_PubSubEvent (ctx : Str) (v : DVal) (rest : List Tok) (hv : v.wf dPubSubEvent = true) :
    unmarshalWith (decDispatch dPubSubEvent) (marshalX ctx (encDispatch dPubSubEvent) v ++ rest) = some (v, rest) :=
  unmarshalWith_toks _ _ v rest ⟨_, _, _, viewS_elem ctx _ _ _⟩ (dispatch_rt _ ctx v hv)

-- non-vacuity: a purge request; a purge event; and the two recorded regions are outside (F-01k: DeleteEvent, F-01l: a ResultSet)
example : (DVal.mk (some ⟨"PurgeOwner", .struct noName [.str "n<1>".toList]⟩) .nil).wf dPubSubOwner = true := by
  repeat rw [String.toList_ofList]
  decide +kernel
example : (DVal.mk (some ⟨"PurgeEvent", .struct noName [.str "princely_musings".toList]⟩) .nil).wf dPubSubEvent = true := by
  repeat rw [String.toList_ofList]
  decide +kernel
example : (DVal.mk (some ⟨"DeleteEvent", .struct noName [.str "n".toList, .nil]⟩) .nil).wf dPubSubEvent = false := by
  repeat rw [String.toList_ofList]
  decide +kernel
example : (DVal.mk none (.ref (.struct noName [.nil, .nil, .nil, .nil, .nil, .nil, .nil]))).wf dPubSubOwner = false := by
  decide +kernel

end XmppVerif.Props.C01S

#print axioms XmppVerif.Props.C01S.C01_roundtrip_dispatch
#print axioms XmppVerif.Props.C01S.C01_reserialise_dispatch
#print axioms XmppVerif.Props.C01S.C01_roundtrip_PubSubOwner
#print axioms XmppVerif.Props.C01S.C01_roundtrip_PubSubEvent
