import XmppVerif.Props.C02Bytes
import XmppVerif.Props.C12
import XmppVerif.Proofs.C02Prefix
import XmppVerif.Proofs.C02BytesCut
/-
C12, stage B: a lost connection at ANY byte offset of a rendered stream ("byte" = code point after UTF-8 decoding).
The bytes up to the cut go through the tokenizer model (Model/C02Bytes) and the packet model (Model/C02); the result is
exactly one packet per top-level element that lies wholly before the cut, then an error - i.e. the token-level history
`pre ++ [cut]` that Props/C12.lean quantifies over - and therefore exactly one Disconnected event, one error callback
and every earlier stanza routed.
-/
namespace XmppVerif.Props.C12Bytes
open XmppVerif.Model.C02 XmppVerif.Model.C02Bytes XmppVerif.Spec.C02 XmppVerif.Spec.C02Bytes XmppVerif.Proofs.C02Bytes
open XmppVerif.Props.C02Bytes (treeItems itemsToks_trees C02B_tokens_of_resolved)
open XmppVerif.Props.C02 (C02_one_per_element packets_nil C02_expected_all_packets dispatchable_append typedOk_append
  classify_not_close)

theorem resolveL_append (env : Env) (a b : List STree) : resolveL env (a ++ b) = resolveL env a ++ resolveL env b := by
  induction a with
  | nil => rfl
  | cons t ts ih => simp [resolveL, ih]

/-- every offset inside a rendered forest belongs to one tree: the first that ends after it, or that is character
data and ends at it (character data is complete only when a `<` follows); `a` is the part of that tree before the cut -/
theorem take_renderL : ∀ (items : List STree) (n : Nat), n < (renderL items).length →
    ∃ pre t post a b, items = pre ++ t :: post ∧ render t = a ++ b ∧ (b ≠ [] ∨ t.isText = true) ∧
      (lastIsText pre = true → a ≠ []) ∧ (renderL items).take n = renderL pre ++ a := by
  intro items
  induction items with
  | nil => intro n h; simp [renderL] at h
  | cons t ts ih =>
    intro n h
    simp only [renderL, List.length_append] at h
    by_cases hn : n < (render t).length ∨ (n = (render t).length ∧ t.isText = true)
    · refine ⟨[], t, ts, (render t).take n, (render t).drop n, rfl, (List.take_append_drop _ _).symm, ?_,
        by simp [lastIsText], ?_⟩
      · rcases hn with hn | ⟨_, ht⟩
        · refine Or.inl (fun e => ?_)
          have := congrArg List.length e
          simp only [List.length_drop, List.length_nil] at this
          omega
        · exact Or.inr ht
      · simp only [renderL, List.nil_append]
        rw [List.take_append_of_le_length (by omega)]
    · obtain ⟨pre, u, post, a, b, h1, h2, h3, h4, h5⟩ := ih (n - (render t).length) (by omega)
      refine ⟨t :: pre, u, post, a, b, by simp [h1], h2, h3, ?_, ?_⟩
      · intro hl ha
        cases pre with
        | nil =>
          -- `t` is character data and was passed over: the offset lies beyond its end
          have ht : t.isText = true := by simpa [lastIsText] using hl
          have hlt : ¬ n < (render t).length ∧ n ≠ (render t).length := ⟨fun h => hn (Or.inl h), fun h => hn (Or.inr ⟨h, ht⟩)⟩
          have := congrArg List.length h5
          simp only [ha, renderL, List.length_take, List.append_nil, List.length_nil] at this
          omega
        | cons p ps => exact h4 (by simpa [lastIsText] using hl) ha
      · simp only [renderL]
        rw [List.take_append, List.take_of_length_le (by omega), h5, List.append_assoc]

theorem packets_of_cut_tree (env : Env) (t : STree) (front ys : List BTok) (hys : ys ≠ []) (h : btoks env t = front ++ ys) :
    ∃ e, packets (eraseL front) = [.err e] := by
  have he : toks (resolve env t) = eraseL front ++ eraseL ys := by
    rw [← erase_tree, h]
    simp [eraseL]
  have hys' : eraseL ys ≠ [] := fun e => hys (List.map_eq_nil_iff.mp e)
  cases hr : resolve env t with
  | elem n as kk =>
    rw [hr] at he
    exact XmppVerif.Proofs.C02Prefix.no_packet_from_proper_prefix n as kk _ _ he hys'
  | text s | misc =>
    rw [hr] at he
    rcases List.append_eq_singleton_iff.mp he.symm with ⟨hp, _⟩ | ⟨_, hy⟩
    · rw [hp]; exact ⟨_, packets_nil⟩
    · exact absurd hy hys'

/-- **A cut inside (or right after) the item `t`**: declaration, header, the items `pre` in full, then only the part
`a` of `t`'s rendering. The complete tokens of these bytes, after what InitStream consumes, give the packet model
exactly one packet per element of `pre` - the elements wholly before the cut - and then an error. -/
theorem C12B_cut_in_item (q : QName) (as : List SAttr) (tail : List Char) (pre : List STree) (t : STree) (post : List STree)
    (a b : List Char)
    (hq : qnameOk q = true) (has : as.all SAttr.ok = true) (ht : wsOk tail = true)
    (hok : okL (pre ++ t :: post) = true) (hsplit : render t = a ++ b) (hb : b ≠ [] ∨ t.isText = true)
    (hpre : lastIsText pre = true → a ≠ [])
    (hd : dispatchable (treeItems (resolveL (envOf [] as) pre)) = true)
    (hty : typedOk (treeItems (resolveL (envOf [] as) pre)) = true) :
    ∃ e, packets (eraseL ((tokenize (xmlDecl ++ (renderOpen q as tail ++ (renderL pre ++ a)))).complete.drop 2)) =
      expected (treeItems (resolveL (envOf [] as) pre)) ++ [.err e] := by
  obtain ⟨front, ys, hys, hbt, hc⟩ := cut_forest pre t post [⟨q, envOf (curEnv []) as⟩] a b hok hsplit hb hpre
  obtain ⟨e, he⟩ := packets_of_cut_tree _ t front ys hys hbt
  refine ⟨e, ?_⟩
  unfold tokenize
  rw [tok_xmlDecl, tok_header q as tail [] _ hq has ht, pre_pre, complete_pre, hc]
  simp only [List.cons_append, List.nil_append, List.drop_succ_cons, List.drop_zero, curEnv, eraseL, List.map_append]
  have h1 := C02B_tokens_of_resolved (envOf [] as) pre
  simp only [eraseL] at h1 he
  rw [h1, ← itemsToks_trees, C02_one_per_element _ _ hd hty, he]

/-- The cut at offset `n` of the rendered items falls inside (or exactly at the end of the character data) one item `t`;
only the items `pre` in front of it have to be dispatchable and well typed for the packet model to yield exactly their
packets and then an error - whatever stands behind the cut. -/
theorem cut_at_offset (q : QName) (as : List SAttr) (tail : List Char) (items : List STree) (n : Nat)
    (hq : qnameOk q = true) (has : as.all SAttr.ok = true) (ht : wsOk tail = true) (hok : okL items = true)
    (hn : n < (renderL items).length) :
    ∃ pre t post, items = pre ++ t :: post ∧
      (renderL pre).length ≤ n ∧ (n < (renderL pre).length + (render t).length ∨ t.isText = true) ∧
      (dispatchable (treeItems (resolveL (envOf [] as) pre)) = true →
       typedOk (treeItems (resolveL (envOf [] as) pre)) = true →
       ∃ e, packets (eraseL ((tokenize (xmlDecl ++ (renderOpen q as tail ++ (renderL items).take n))).complete.drop 2)) =
         expected (treeItems (resolveL (envOf [] as) pre)) ++ [.err e]) := by
  obtain ⟨pre, t, post, a, b, hitems, hsplit, hb, hpre, htake⟩ := take_renderL items n hn
  have hlen : n = (renderL pre).length + a.length := by
    have := congrArg List.length htake
    simp only [List.length_take, List.length_append] at this
    omega
  rw [hitems] at hok
  refine ⟨pre, t, post, hitems, by omega, ?_, fun hd hty => ?_⟩
  · rcases hb with hb | hb
    · have := congrArg List.length hsplit
      have hbl : 0 < b.length := List.length_pos_iff.mpr hb
      simp only [List.length_append] at this
      exact Or.inl (by omega)
    · exact Or.inr hb
  · rw [htake]
    exact C12B_cut_in_item q as tail pre t post a b hq has ht hok hsplit hb hpre hd hty

/-- **Every byte offset.** Cut the rendered stream - declaration, header, any forest of top-level items - at ANY offset
`n` inside the items. Then the items split as `pre ++ t :: post` with the cut inside (or exactly at the end of the
character data) `t`, and the packet model yields exactly the packets of `pre`, the elements wholly before the cut, then
an error: never a packet for the element that was cut, never a different one. -/
theorem C12B_every_byte_offset (q : QName) (as : List SAttr) (tail : List Char) (items : List STree) (n : Nat)
    (hq : qnameOk q = true) (has : as.all SAttr.ok = true) (ht : wsOk tail = true) (hok : okL items = true)
    (hn : n < (renderL items).length)
    (hd : dispatchable (treeItems (resolveL (envOf [] as) items)) = true)
    (hty : typedOk (treeItems (resolveL (envOf [] as) items)) = true) :
    ∃ pre t post e, items = pre ++ t :: post ∧
      (renderL pre).length ≤ n ∧ (n < (renderL pre).length + (render t).length ∨ t.isText = true) ∧
      packets (eraseL ((tokenize (xmlDecl ++ (renderOpen q as tail ++ (renderL items).take n))).complete.drop 2)) =
        expected (treeItems (resolveL (envOf [] as) pre)) ++ [.err e] := by
  obtain ⟨pre, t, post, hitems, h1, h2, hp⟩ := cut_at_offset q as tail items n hq has ht hok hn
  rw [hitems, resolveL_append] at hd hty
  simp only [treeItems, List.map_append, dispatchable_append, typedOk_append, Bool.and_eq_true] at hd hty
  obtain ⟨e, he⟩ := hp hd.1 hty.1
  exact ⟨pre, t, post, e, hitems, h1, h2, he⟩

open XmppVerif.Model.Recv XmppVerif.Spec.Recv XmppVerif.Spec.RecvObs in
/-- how the receive loop sees one result of NextPacket: `f` names the abstract packet of the Recv model for a decoded
packet; a decoder error is a `cut`; no write of an `<a/>` answer fails (that loss is C12_failed_answer_reported) -/
def inOf (f : Packet → XmppVerif.Model.Recv.Pkt) : PRes → XmppVerif.Model.Recv.In
  | .pkt p => .pkt (f p) false
  | .err _ => .cut

theorem expected_trees_not_close (ts : List Tree) (hd : dispatchable (treeItems ts) = true) :
    ∀ r ∈ expected (treeItems ts), ∃ p, r = .pkt p ∧ p.kind ≠ .streamClose := by
  intro r hr
  obtain ⟨p, rfl⟩ := C02_expected_all_packets _ hd r hr
  simp only [expected, treeItems, List.mem_flatMap, List.mem_map] at hr
  obtain ⟨_, ⟨t, _, rfl⟩, ht⟩ := hr
  exact ⟨p, rfl, classify_not_close t p ht⟩

open XmppVerif.Model.Recv XmppVerif.Spec.Recv XmppVerif.Spec.RecvObs in
/-- **C12 at every byte offset.** Whatever the offset `n` at which the connection is lost inside the rendered items,
the receive loop, fed with what the decoder makes of the bytes before the cut, raises exactly one Disconnected event
carrying the stream-management id and the count of the stanzas wholly received, calls the error handler once for the
loss (plus once per stream error received before), and has routed exactly the stanzas wholly before the cut.
`f` is any naming of decoded packets in the alphabet of the Recv model that calls only a stream-close packet `close`. -/
theorem C12B_reported_once_at_every_byte_offset (f : Packet → XmppVerif.Model.Recv.Pkt)
    (hf : ∀ p, p.kind ≠ .streamClose → f p ≠ .close) (s : XmppVerif.Model.Recv.St)
    (q : QName) (as : List SAttr) (tail : List Char) (items : List STree) (n : Nat)
    (hq : qnameOk q = true) (has : as.all SAttr.ok = true) (ht : wsOk tail = true) (hok : okL items = true)
    (hn : n < (renderL items).length)
    (hd : dispatchable (treeItems (resolveL (envOf [] as) items)) = true)
    (hty : typedOk (treeItems (resolveL (envOf [] as) items)) = true) :
    ∃ pre t post, items = pre ++ t :: post ∧ (renderL pre).length ≤ n ∧
      (n < (renderL pre).length + (render t).length ∨ t.isText = true) ∧
      (let hist := (packets (eraseL ((tokenize (xmlDecl ++ (renderOpen q as tail ++ (renderL items).take n))).complete.drop 2))).map (inOf f)
       let before := (expected (treeItems (resolveL (envOf [] as) pre))).map (inOf f)
       discEvents (clientRecv s hist).2 = [(s.smId, s.inbound + stanzaCount before)] ∧
       errhCount (clientRecv s hist).2 = serrCount before + 1 ∧
       routedStanzas (clientRecv s hist).2 = before.filterMap stanzaOf) := by
  obtain ⟨pre, t, post, hitems, h1, h2, hp⟩ := cut_at_offset q as tail items n hq has ht hok hn
  rw [hitems, resolveL_append] at hd hty
  simp only [treeItems, List.map_append, dispatchable_append, typedOk_append, Bool.and_eq_true] at hd hty
  obtain ⟨e, hp⟩ := hp hd.1 hty.1
  refine ⟨pre, t, post, hitems, h1, h2, ?_⟩
  have hstops : ∀ i ∈ (expected (treeItems (resolveL (envOf [] as) pre))).map (inOf f), stops i = false := by
    intro i hi
    obtain ⟨r, hr, hir⟩ := List.mem_map.mp hi
    obtain ⟨p, hrp, hk⟩ := expected_trees_not_close _ hd.1 r hr
    subst hrp
    have hne := hf p hk
    rw [← hir]
    simp only [inOf]
    -- no answer fails to be written, so only a stream-close packet would stop the loop, and `hf` excludes it
    cases hfp : f p with
    | close => exact absurd hfp hne
    | _ => rfl
  simp only
  rw [hp, List.map_append]
  simp only [List.map_cons, List.map_nil, inOf]
  exact XmppVerif.Props.C12.C12_every_cut_position s _ [] hstops

open XmppVerif.Props.C02Bytes (sampleForest streamQ streamAttrs) in
/-- the sample stream of Props/C02Bytes (its items are 207 characters) cut 150 characters into the items: inside the
CDATA section of the message, so no item is complete; cut at 195: the message (188 characters) and the white space
are complete, `<stream:features/>` is not -/
example :
    packets (eraseL ((tokenize (xmlDecl ++ (renderOpen streamQ streamAttrs [] ++ (renderL sampleForest).take 150))).complete.drop 2))
      = [.err .eof] ∧
    packets (eraseL ((tokenize (xmlDecl ++ (renderOpen streamQ streamAttrs [] ++ (renderL sampleForest).take 195))).complete.drop 2))
      = [.pkt ⟨.message, "", "", "", "a&b", "1 < 2 & 3 > 2 ]]>"⟩, .err .eof] := by
  decide +kernel

end XmppVerif.Props.C12Bytes
#print axioms XmppVerif.Props.C12Bytes.C12B_cut_in_item
#print axioms XmppVerif.Props.C12Bytes.C12B_every_byte_offset
#print axioms XmppVerif.Props.C12Bytes.C12B_reported_once_at_every_byte_offset
