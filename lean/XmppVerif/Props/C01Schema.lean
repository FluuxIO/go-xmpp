import XmppVerif.Proofs.C01SchemaShape
import XmppVerif.Props.C01SchemaWf
/-
C01, schema-coded types (the registered extension / payload types whose codec is encoding/xml's reflection walk).
ONE round-trip theorem for every schema satisfying the decidable `Schema.wf` and every value satisfying the decidable
`Val.fits`: marshal, print + tokenize under any default namespace, DecodeElement = the value, the rest of the stream
untouched (`C01_schema_roundtrip`); the second serialization is identical (`C01_schema_reserialise`); the output has
two '<' and two '>' per element of what the value's structure encodes to, whatever the strings contain - for every
value with names in its name positions, fitting or not (`C01_schema_structure`), and that skeleton is the same for any
two values that differ only in the content of non-empty strings (`C01_schema_shape_text_independent`,
`C01_schema_same_skeleton`); the oracle accepts the model.
Instances (schemas proved equal to the ones regenerated from the struct tags in Tie/C01Schema.lean):
Props/C01SchemaTypes.lean.
-/
namespace XmppVerif.Props.C01S
open XmppVerif.Model.C01 hiding Schema Field FKind FVal FlatVal schemas fld conforms fvalOk encField decField decFields
open XmppVerif.Model.C01S XmppVerif.Spec.C01 XmppVerif.Spec.C01S XmppVerif.Proofs.C01 XmppVerif.Proofs.C01S

private theorem wf_parts (s : Ty) (h : Ty.wf s = true) :
    (∃ tn xn hs ts, s = .struct tn xn hs ts) ∧ nameOk (topLoc s) = true ∧ Ty.wfE ⟨[], topLoc s⟩ false s = true := by
  simp only [Ty.wf, Bool.and_eq_true] at h
  refine ⟨?_, h.1.2, h.2⟩
  -- the first conjunct of `Ty.wf` is `true` for a struct only
  cases s with
  | struct tn xn hs ts => exact ⟨tn, xn, hs, ts, rfl⟩
  | _ => simp at h

/-- at top level there is no field: the start name is the XMLName tag or the Go type name either way -/
private theorem encS_top (s : Ty) (v : Val) (h : Ty.wf s = true) : encS s v = encD [] ⟨[], topLoc s⟩ false s v := by
  obtain ⟨⟨tn, xn, hs, ts, rfl⟩, hn, hw⟩ := wf_parts s h
  have hne := nameOk_ne_nil _ hn
  cases v with
  | struct dn vs =>
    have : startName tn xn dn noName = startName tn xn dn ⟨[], topLoc (.struct tn xn hs ts)⟩ := by
      cases xn with
      | dyn => cases (wfE_struct hw).1
      | tag n => rfl
      | absent =>
        have : topLoc (.struct tn .absent hs ts) = tn := by simp [topLoc, startName, noName]
        rw [this] at hne ⊢
        simp [startName, noName, hne]
    simp only [encS, encD_struct, this]
  | _ => rfl

/-- element level (what the hand-written loops of the stanzas use): xml.Marshal writes exactly one element, and
Decoder.DecodeElement on a fresh value of the type reads it back as `v`, under every default namespace -/
theorem C01_schema_roundtrip_el (ctx : Str) (s : Ty) (v : Val) (hs : Ty.wf s = true) (hv : v.fits s = true) :
    ∃ n a ks, encS s v = [.elem n a ks] ∧ decS s (viewS ctx (.elem n a ks)) = some v := by
  obtain ⟨_, hn, hw⟩ := wf_parts s hs
  obtain ⟨n, a, ks, henc, _, _, hdec⟩ :=
    rtE s ⟨[], topLoc s⟩ false (nameOk_ne_nil _ hn) hw ctx [] false v (by simp) hv
  exact ⟨n, a, ks, by rw [encS_top s v hs, henc], hdec⟩

/-- a struct with a tagged XMLName is written under that name whatever field holds it (`ps`, `fn`, `om` arbitrary),
and read back -/
theorem C01_schema_roundtrip_el_tagged (ctx ps : Str) (fn : Name) (om : Bool) (tn : Str) (n : Name) (hs : List Hdr)
    (ts : List Ty) (v : Val) (hwf : Ty.wf (.struct tn (.tag n) hs ts) = true)
    (hv : v.fits (.struct tn (.tag n) hs ts) = true) :
    ∃ a ks, encD ps fn om (.struct tn (.tag n) hs ts) v = [.elem n a ks] ∧
      decS (.struct tn (.tag n) hs ts) (viewS ctx (.elem n a ks)) = some v := by
  obtain ⟨n', a, ks, henc, hdec⟩ := C01_schema_roundtrip_el ctx _ v hwf hv
  cases v with
  | struct dn vs =>
    rw [encS, encD_struct] at henc
    -- both sides are one `.elem`: injectivity identifies `n'`, `a`, `ks` with what `encD_struct` writes
    cases henc
    exact ⟨_, _, encD_struct ps fn om tn (.tag n) hs ts dn vs, hdec⟩
  | _ => cases henc

/-- THE round trip: for every well-formed schema and every fitting value, under every default namespace and before any
rest of the stream, Unmarshal (Marshal v) = v and the rest is untouched. -/
theorem C01_schema_roundtrip (ctx : Str) (s : Ty) (v : Val) (rest : List Tok)
    (hs : Schema.wf s = true) (hv : v.fits s = true) :
    unmarshalS s (marshalS ctx s v ++ rest) = some (v, rest) := by
  obtain ⟨n, a, ks, henc, hdec⟩ := C01_schema_roundtrip_el ctx s v hs hv
  simp only [unmarshalS, marshalS, henc, viewSL_one, toksL, List.append_nil]
  exact unmarshalWith_toks _ _ v rest ⟨_, _, _, viewS_elem ctx _ _ _⟩ hdec

/-- the second serialization is identical: tokens and bytes -/
theorem C01_schema_reserialise (ctx : Str) (s : Ty) (v : Val) (hs : Schema.wf s = true) (hv : v.fits s = true) :
    (unmarshalS s (marshalS ctx s v)).map (fun p => (marshalS ctx s p.1, bytesS s p.1)) =
      some (marshalS ctx s v, bytesS s v) :=
  reserialise (dec := decS s) (fun x => (marshalS ctx s x, bytesS s x)) (C01_schema_roundtrip ctx s v [] hs hv)

/-- text never injects XML: the bytes written for ANY value of a well-formed schema - strings of any content, fitting
or not; only the fields that are element names by design (a dynamic XMLName, the names inside a Node) must hold names -
contain exactly two '<' and two '>' per element of the encoded structure -/
theorem C01_schema_structure (c : Char) (hc : c = '<' ∨ c = '>') (s : Ty) (v : Val) (hs : Schema.wf s = true)
    (hv : v.namesOk = true) : count c (bytesS s v) = 2 * elemCountL (encS s v) := by
  obtain ⟨_, hn, hw⟩ := wf_parts s hs
  have := namesE s ⟨[], topLoc s⟩ false hn hw [] false v hv
  rw [← encS_top s v hs] at this
  exact struct_els c hc _ this

/-- in particular for every fitting value -/
theorem C01_schema_structure_fits (c : Char) (hc : c = '<' ∨ c = '>') (s : Ty) (v : Val) (hs : Schema.wf s = true)
    (hv : v.fits s = true) : count c (bytesS s v) = 2 * elemCountL (encS s v) := by
  obtain ⟨_, hn, hw⟩ := wf_parts s hs
  exact C01_schema_structure c hc s v hs (fits_names s ⟨[], topLoc s⟩ false hn hw v hv)

/-- … and the element skeleton (names and nesting) the decoder sees is that of the value with every text blanked
(any schema, any value) -/
theorem C01_schema_shape_text_independent (ctx : Str) (s : Ty) (v : Val) :
    shapeL (viewSL ctx (encS s v)) = shapeL (encS s v.mask) := by
  rw [shapeL_viewS, encS, encS, maskE]

/-- so two values that differ only in the content of their non-empty strings are written with the same skeleton -/
theorem C01_schema_same_skeleton (ctx : Str) (s : Ty) (v w : Val) (h : v.mask = w.mask) :
    shapeL (viewSL ctx (encS s v)) = shapeL (viewSL ctx (encS s w)) := by
  rw [C01_schema_shape_text_independent, C01_schema_shape_text_independent, h]

mutual
private theorem beq_refl (v : Val) : Val.beq v v = true := by
  cases v with
  | struct dn fs => simp [Val.beq, beqL_refl fs]
  | ref x => simp [Val.beq, beq_refl x]
  | slice l => simp [Val.beq, beqL_refl l]
  | node t => simp [Val.beq, Tree.beq_refl]
  | _ => simp [Val.beq]
private theorem beqL_refl (l : List Val) : Val.beqL l l = true := by
  cases l with
  | nil => simp [Val.beqL]
  | cons x xs => simp [Val.beqL, beq_refl x, beqL_refl xs]
end

theorem C01_schema_oracle_accepts_model (ctx : Str) (s : Ty) (v : Val) (np : String)
    (hnp : np = "same" ∨ np = "-") : holdsS s v (modelObsS ctx s v np) = true := by
  unfold holdsS
  by_cases hq : (Ty.wf s && v.fits s) = true
  · have hq' := hq
    simp only [Bool.and_eq_true] at hq'
    have hrt := C01_schema_roundtrip ctx s v [] hq'.1 hq'.2
    rw [List.append_nil] at hrt
    have hnp' : (np == "same" || np == "-") = true := by rcases hnp with e | e <;> subst e <;> decide
    simp [hq, modelObsS, hrt, beq_refl, shapeL_viewS, hnp']
  · simp [hq]

-- non-vacuity: metacharacter-heavy values fit
example : (Val.struct noName [.nil, .str "a<b>&\"'\r\n]]>".toList, .str " x ".toList]).fits tyOOB = true := by
  repeat rw [String.toList_ofList]
  decide +kernel
example : Schema.wf tyDiscoInfo = true := wf_at 9 rfl (by decide +kernel)

end XmppVerif.Props.C01S

#print axioms XmppVerif.Props.C01S.C01_schema_roundtrip_el
#print axioms XmppVerif.Props.C01S.C01_schema_roundtrip
#print axioms XmppVerif.Props.C01S.C01_schema_reserialise
#print axioms XmppVerif.Props.C01S.C01_schema_structure
#print axioms XmppVerif.Props.C01S.C01_schema_structure_fits
#print axioms XmppVerif.Props.C01S.C01_schema_shape_text_independent
#print axioms XmppVerif.Props.C01S.C01_schema_same_skeleton
#print axioms XmppVerif.Props.C01S.C01_schema_oracle_accepts_model
