import XmppVerif.Props.NegLemmas
import XmppVerif.Model.C04
/-
C04 - no credentials or stanzas without verified TLS unless insecure mode is requested.
-/
namespace XmppVerif.Props.C04
open XmppVerif.Model.Neg XmppVerif.Spec.Neg XmppVerif.Model.C04 XmppVerif.Props.Neg

/-- **The gate**: unless the application allowed insecure connections, on every connection and for every server
behaviour, everything except the stream header and `<starttls/>` (that is: `<auth>` with the password, resume, bind,
session, enable - and therefore every later stanza) is written only after a successful `StartTLS()`. -/
theorem C04_gate (cfg : Cfg) (s0 : Sess) (sc : Script) : gateOk cfg (negotiate cfg s0 sc).writes = true := by
  have h := negotiate_path cfg s0 sc
  generalize negotiate cfg s0 sc = r at h ⊢
  -- sensitive writes without the secure flag occur only after `ReachesAuth.plain`, which requires `cfg.insecure`
  cases h with
  | stop h => path_leaves h <;> simp [gateOk, sensitive, *]
  | go h1 h2 =>
    cases h1 with
    | go hr =>
      cases hr with
      | plain _ _ _ hi => simp [gateOk, hi]
      | tls => simp +contextual [gateOk, sensitive, fun w hw => (h2.writes w hw).1]

/-- **Secure only after a verified handshake**: a write is flagged secure only if the server offered STARTTLS,
answered `<proceed/>` and `StartTLS()` succeeded. -/
theorem C04_secure_only_after_tls (cfg : Cfg) (s0 : Sess) (sc : Script) :
    ∀ w ∈ (negotiate cfg s0 sc).writes, w.secure = true →
      ∃ f1, sc.feat1 = some f1 ∧ tlsNegotiated f1 sc = true := by
  have h := negotiate_path cfg s0 sc
  generalize negotiate cfg s0 sc = r at h ⊢
  -- the flag is set only after `ReachesAuth.tls`, which carries exactly this evidence
  cases h with
  | stop h => path_leaves h <;> simp [*]
  | go h1 h2 =>
    cases h1 with
    | go hr => cases hr <;> simp +contextual [*, fun w hw => (h2.writes w hw).1]

/-- `StartTLS()` succeeds only if verification was explicitly disabled or the certificate chains to a configured
root, is within its validity period and is valid for the configured domain (and for `ServerName` when one is set). -/
theorem C04_starttls_verified (t : TlsCfg) (c : Cert) (h : startTLSOk t c = true) :
    t.skipVerify = true ∨ (t.rootsKnowCA = true ∧ c.signedByCA = true ∧ c.unexpired = true ∧
      c.names.contains t.domain = true ∧ c.names.contains (effectiveServerName t) = true) := by
  unfold startTLSOk handshakeVerifies at h
  cases hs : t.skipVerify with
  | true => left; rfl
  | false =>
    right
    simp only [hs, Bool.false_or, Bool.and_eq_true] at h
    obtain ⟨⟨⟨⟨h1, h2⟩, h3⟩, h4⟩, h5⟩ := h
    exact ⟨h1, h2, h3, h5, h4⟩

/-- **Per connection**: in every history of connections on one client (reconnects, resumptions) each connection
satisfies the gate on its own - a TLS session of an earlier connection never counts (fix F-04). -/
theorem C04_history (cfg : Cfg) (scripts : List Script) : ∀ s : Sess,
    ∀ r ∈ connectAll cfg s scripts, gateOk cfg r.writes = true := by
  induction scripts with
  | nil => intro s r hr; simp [connectAll] at hr
  | cons sc rest ih =>
    intro s r hr
    simp only [connectAll, List.mem_cons] at hr
    rcases hr with rfl | hr
    · exact C04_gate cfg s sc
    · exact ih _ r hr

-- non-vacuity: a wrong-host certificate never yields a secure connection unless verification is disabled
example : startTLSOk ⟨false, true, "", "localhost"⟩ ⟨true, true, ["other.example"]⟩ = false := by decide
example : startTLSOk ⟨true, false, "", "localhost"⟩ ⟨false, false, []⟩ = true := by decide
example : startTLSOk ⟨false, true, "alt.example", "localhost"⟩ ⟨true, true, ["alt.example"]⟩ = false := by decide

/-- **The gate on the WebSocket transport**: unless insecure connections were allowed, nothing but the stream
opening is written on a plain `ws:` connection, and whatever is written beyond it on a `wss:` connection is written
under the secure flag. -/
theorem C04_ws_gate (insecure wss : Bool) :
    gateOk ⟨insecure⟩ (wsWrites insecure wss) = true ∧
    ((wsWrites insecure wss).all fun w => !w.secure || wss) = true := by
  cases insecure <;> cases wss <;> decide

end XmppVerif.Props.C04

#print axioms XmppVerif.Props.C04.C04_gate
#print axioms XmppVerif.Props.C04.C04_secure_only_after_tls
#print axioms XmppVerif.Props.C04.C04_starttls_verified
#print axioms XmppVerif.Props.C04.C04_history
#print axioms XmppVerif.Props.C04.C04_ws_gate
