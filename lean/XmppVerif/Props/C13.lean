import XmppVerif.Model.C13
/-
C13 - StreamManager re-establishes exactly one working session after each loss.
-/
namespace XmppVerif.Props.C13
open XmppVerif.Model.C13

/-- a run of reconnection attempts that eventually succeeds: some transient failures, then ok -/
def succeeds : List Attempt → Bool
  | .ok :: _ => true
  | .transient :: rest => succeeds rest
  | _ => false

def transients : List Attempt → Nat
  | .transient :: rest => transients rest + 1
  | _ => 0

theorem retry_success (atts : List Attempt) (h : succeeds atts = true) : ∀ o : Out,
    retry atts o = { o with sessions := o.sessions + 1, postConnect := o.postConnect + 1,
                            receivers := o.receivers + 1,
                            attempts := o.attempts + transients atts + 1, waits := o.waits + transients atts } := by
  induction atts with
  | nil => simp [succeeds] at h
  | cons a rest ih =>
    intro o
    cases a with
    | ok => simp [retry, transients]
    | permanent => simp [succeeds] at h
    | transient =>
      simp only [succeeds] at h
      simp only [retry, transients, ih h]
      congr 1 <;> omega

/-- **Exactly one new session per loss**: if after every termination (abrupt or graceful) the server eventually
accepts again, then after k terminations there are exactly k+1 sessions, the post-connect callback ran once per
session, one receive loop (with its keepalive) was started per session, nothing gave up and nothing is left
retrying; every attempt was preceded by exactly one back-off wait per earlier failure (no reconnect storm). -/
theorem C13_one_session_per_loss (ls : List (Ending × List Attempt)) (h : ∀ l ∈ ls, succeeds l.2 = true) :
    ∀ o : Out, o.gaveUp = false → o.retrying = false →
      let r := lives ls o
      r.sessions = o.sessions + ls.length ∧ r.postConnect = o.postConnect + ls.length ∧
      r.receivers = o.receivers + ls.length ∧ r.gaveUp = false ∧ r.retrying = false ∧
      r.attempts = o.attempts + ls.length + (ls.map (fun l => transients l.2)).sum ∧
      r.waits = o.waits + (ls.map (fun l => transients l.2)).sum := by
  induction ls with
  | nil => intro o hg hr; simp [lives, hg, hr]
  | cons l rest ih =>
    intro o hg hr
    have hs := h l List.mem_cons_self
    have := ih (fun l hl => h l (List.mem_cons_of_mem _ hl)) (retry l.2 o)
      (by rw [retry_success l.2 hs]; exact hg) (by rw [retry_success l.2 hs]; exact hr)
    simp only [lives, retry_success l.2 hs, hg, hr, Bool.or_self, Bool.false_eq_true, if_false,
      List.length_cons, List.map_cons, List.sum_cons] at this ⊢
    obtain ⟨hsess, hpost, hrecv, hgave, hretry, hatt, hwait⟩ := this
    exact ⟨by omega, by omega, by omega, hgave, hretry, by omega, by omega⟩

theorem C13_run_one_session_per_loss (ls : List (Ending × List Attempt)) (h : ∀ l ∈ ls, succeeds l.2 = true) :
    (run ⟨.ok, ls⟩).sessions = ls.length + 1 ∧ (run ⟨.ok, ls⟩).postConnect = ls.length + 1 ∧
    (run ⟨.ok, ls⟩).receivers = ls.length + 1 ∧ (run ⟨.ok, ls⟩).gaveUp = false := by
  -- the counters `run` hands to `lives` after a first connection that succeeded
  have := C13_one_session_per_loss ls h ⟨1, 1, 1, 1, 0, false, false, false⟩ rfl rfl
  simp only [run]
  -- unfold the `let r` of the statement used
  simp only at this
  obtain ⟨hsess, hpost, hrecv, hgave, _, _, _⟩ := this
  exact ⟨by omega, by omega, by omega, hgave⟩

theorem retry_counts (atts : List Attempt) : ∀ o : Out, o.postConnect = o.sessions → o.receivers = o.sessions →
    (retry atts o).postConnect = (retry atts o).sessions ∧ (retry atts o).receivers = (retry atts o).sessions := by
  induction atts with
  | nil => intro o h1 h2; simp [retry, h1, h2]
  | cons a rest ih =>
    intro o h1 h2
    cases a with
    | ok | permanent => simp [retry, h1, h2]
    | transient => exact ih _ (by simp [h1]) (by simp [h2])

theorem lives_counts (ls : List (Ending × List Attempt)) : ∀ o : Out, o.postConnect = o.sessions →
    o.receivers = o.sessions →
    (lives ls o).postConnect = (lives ls o).sessions ∧ (lives ls o).receivers = (lives ls o).sessions := by
  induction ls with
  | nil => intro o h1 h2; exact ⟨h1, h2⟩
  | cons l rest ih =>
    intro o h1 h2
    have := retry_counts l.2 o h1 h2
    simp only [lives]
    split
    · exact this
    · exact ih _ this.1 this.2

theorem C13_postconnect_once_per_session (s : Script) :
    (run s).postConnect = (run s).sessions ∧ (run s).receivers = (run s).sessions := by
  unfold run
  cases s.first with
  | ok => exact lives_counts _ _ rfl rfl
  | transient | permanent => simp

/-- **A permanent error ends the retry loop**: after transient failures and then a permanent one, exactly that many
attempts were made, no further attempt is ever made for this or any later script entry, and no session appears. -/
theorem C13_permanent_stops (pre : List Attempt) (post : List Attempt) (hpre : ∀ a ∈ pre, a = .transient) (o : Out) :
    retry (pre ++ .permanent :: post) o =
      { o with attempts := o.attempts + pre.length + 1, waits := o.waits + pre.length, gaveUp := true } := by
  induction pre generalizing o with
  | nil => simp [retry]
  | cons a rest ih =>
    have ha := hpre a (by simp)
    subst ha
    have ih' := ih (fun a h => hpre a (List.mem_cons_of_mem _ h))
    simp only [List.cons_append, retry, ih', List.length_cons]
    congr 1 <;> omega

theorem C13_gave_up_is_final (rest : List (Ending × List Attempt)) (e : Ending) (atts : List Attempt) (o : Out)
    (h : (retry atts o).gaveUp = true) : lives ((e, atts) :: rest) o = retry atts o := by
  simp [lives, h]

/-- a failed FIRST connection is returned by `Run` and leaves nothing running: no retry, no session -/
theorem C13_first_failure_returns (a : Attempt) (ls : List (Ending × List Attempt)) (h : a ≠ .ok) :
    run ⟨a, ls⟩ = ⟨0, 0, 0, 1, 0, false, false, true⟩ := by
  cases a <;> simp_all [run]

example : run ⟨.ok, [(.drop, [.transient, .transient, .ok]), (.graceful, [.ok])]⟩
    = ⟨3, 3, 3, 5, 2, false, false, false⟩ := by decide
example : run ⟨.ok, [(.drop, [.transient, .permanent, .ok]), (.drop, [.ok])]⟩
    = ⟨1, 1, 1, 3, 1, true, false, false⟩ := by decide

end XmppVerif.Props.C13

#print axioms XmppVerif.Props.C13.retry_success
#print axioms XmppVerif.Props.C13.C13_one_session_per_loss
#print axioms XmppVerif.Props.C13.C13_run_one_session_per_loss
#print axioms XmppVerif.Props.C13.C13_postconnect_once_per_session
#print axioms XmppVerif.Props.C13.C13_permanent_stops
#print axioms XmppVerif.Props.C13.C13_gave_up_is_final
#print axioms XmppVerif.Props.C13.C13_first_failure_returns
