import XmppVerif.Spec.C14
import XmppVerif.Props.Cut
/-
C14 - SASL: only an advertised, supported mechanism is used; the PLAIN payload is exact.
-/
namespace XmppVerif.Props.C14
open XmppVerif.Model.C14 XmppVerif.Spec.C14

/-- The 64-entry table, evaluated once; the first conjunct also fixes the alphabet's length, so that `encChar n` is an
entry of it for `n < 64`. -/
theorem alphabet_table :
    alphabet.map decChar = (List.range 64).map some ∧
    ∀ c ∈ '=' :: alphabet, c ∉ ['<', '>', '&', '"', '\''] ∧ c.toNat < 128 ∧ 32 < c.toNat := by
  -- Left to itself the kernel decodes a string literal through its UTF-8 bytes, quadratically in its length;
  -- `String.toList_ofList` hands it the characters. (The test vectors at the end reach the literal inside
  -- `encChar`, where no rewriting of the goal gets at it: most of what they cost is this decoding.)
  unfold alphabet
  rw [String.toList_ofList]
  decide +kernel

theorem encChar_spec {n : Nat} (h : n < 64) : encChar n ∈ alphabet ∧ decChar (encChar n) = some n := by
  have hd := congrArg (·[n]?) alphabet_table.1
  simp only [List.getElem?_map, List.getElem?_range h, Option.map_some] at hd
  obtain ⟨c, hc, hdc⟩ := Option.map_eq_some_iff.mp hd
  have hn : encChar n = c := by
    unfold encChar
    rw [List.getD_eq_getElem?_getD, hc, Option.getD_some]
  rw [hn]
  exact ⟨List.mem_of_getElem? hc, hdc⟩

theorem encChar_ne_pad {n : Nat} (h : n < 64) : encChar n ≠ '=' := by
  intro e
  have hd := (encChar_spec h).2
  rw [e, show decChar '=' = none by decide] at hd
  cases hd

theorem enc3_lt {a b c : Nat} (ha : a < 256) (hb : b < 256) (hc : c < 256) :
    (enc3 a b c).1 < 64 ∧ (enc3 a b c).2.1 < 64 ∧ (enc3 a b c).2.2.1 < 64 ∧ (enc3 a b c).2.2.2 < 64 := by
  simp only [enc3]
  omega

theorem dec_enc3 (a : Nat) {b c : Nat} (hb : b < 256) (hc : c < 256) :
    dec2 (enc3 a b c).1 (enc3 a b c).2.1 = a ∧ dec3 (enc3 a b c).2.1 (enc3 a b c).2.2.1 = b ∧
    dec4 (enc3 a b c).2.2.1 (enc3 a b c).2.2.2 = c := by
  simp only [enc3, dec2, dec3, dec4]
  omega

/-- **base64 round trip**: decoding the encoding of ANY byte string returns that byte string. -/
theorem C14_b64_rt (bs : List UInt8) : b64dec (b64enc bs) = some bs := by
  -- a short last group is the group with its missing bytes taken as 0
  have h0 : 0 < 256 := by decide
  induction bs using b64enc.induct with
  | case1 => rfl
  | case2 a =>
    obtain ⟨h1, h2, _, _⟩ := enc3_lt a.toNat_lt h0 h0
    obtain ⟨g2, _, _⟩ := dec_enc3 a.toNat h0 h0
    simp only [b64enc, b64dec, List.isEmpty_nil, if_true, (encChar_spec h1).2, (encChar_spec h2).2,
      Option.bind_eq_bind, Option.bind_some, Option.pure_def, g2, UInt8.ofNat_toNat]
  | case3 a b =>
    obtain ⟨h1, h2, h3, _⟩ := enc3_lt a.toNat_lt b.toNat_lt h0
    obtain ⟨g2, g3, _⟩ := dec_enc3 a.toNat b.toNat_lt h0
    simp only [b64enc, b64dec, List.isEmpty_nil, if_true, if_neg (encChar_ne_pad h3), (encChar_spec h1).2,
      (encChar_spec h2).2, (encChar_spec h3).2, Option.bind_eq_bind, Option.bind_some, Option.pure_def, g2, g3,
      UInt8.ofNat_toNat]
  | case4 a b c rest ih =>
    obtain ⟨h1, h2, h3, h4⟩ := enc3_lt a.toNat_lt b.toNat_lt c.toNat_lt
    obtain ⟨g2, g3, g4⟩ := dec_enc3 a.toNat b.toNat_lt c.toNat_lt
    simp only [b64enc, b64dec, if_neg (encChar_ne_pad h4), (encChar_spec h1).2, (encChar_spec h2).2,
      (encChar_spec h3).2, (encChar_spec h4).2, ih, Option.bind_eq_bind, Option.bind_some, Option.pure_def, g2, g3,
      g4, UInt8.ofNat_toNat]

/-- hence the encoding is injective: two different byte strings never share a payload -/
theorem C14_b64_inj (x y : List UInt8) (h : b64enc x = b64enc y) : x = y :=
  Option.some.inj ((C14_b64_rt x).symm.trans ((congrArg b64dec h).trans (C14_b64_rt y)))

/-- length: 4 characters per started group of 3 bytes (so the three padding residues are 0, 2 and 1 '=') -/
theorem C14_b64_length (bs : List UInt8) : (b64enc bs).length = 4 * ((bs.length + 2) / 3) := by
  induction bs using b64enc.induct with
  | case1 => rfl
  | case2 | case3 => simp [b64enc]
  | case4 a b c rest ih =>
    simp only [b64enc, List.length_cons, ih]
    omega

/-- **payload exact**: the element text is the base64 encoding of NUL user NUL secret, and it decodes to exactly
those bytes, for every user name and every secret. -/
theorem C14_payload_exact (user secret : List UInt8) :
    plainPayload user secret = b64enc (0 :: user ++ 0 :: secret) ∧
    b64dec (plainPayload user secret) = some (0 :: user ++ 0 :: secret) :=
  ⟨rfl, C14_b64_rt _⟩

/-- the payload determines user and secret (user names contain no NUL: a JID local part never does) -/
theorem C14_payload_inj (u u' s s' : List UInt8) (hu : (0 : UInt8) ∉ u) (hu' : (0 : UInt8) ∉ u')
    (h : plainPayload u s = plainPayload u' s') : u = u' ∧ s = s' :=
  Cut.split_at_sep hu hu' (List.cons.inj (C14_b64_inj _ _ h)).2

theorem b64enc_forall {P : Char → Prop} (hpad : P '=') (henc : ∀ n, n < 64 → P (encChar n)) (bs : List UInt8) :
    ∀ c ∈ b64enc bs, P c := by
  have h0 : 0 < 256 := by decide
  induction bs using b64enc.induct with
  | case1 => exact fun _ h => nomatch h
  | case2 a =>
    obtain ⟨h1, h2, _, _⟩ := enc3_lt a.toNat_lt h0 h0
    simp only [b64enc, List.forall_mem_cons]
    exact ⟨henc _ h1, henc _ h2, hpad, hpad, fun _ h => nomatch h⟩
  | case3 a b =>
    obtain ⟨h1, h2, h3, _⟩ := enc3_lt a.toNat_lt b.toNat_lt h0
    simp only [b64enc, List.forall_mem_cons]
    exact ⟨henc _ h1, henc _ h2, henc _ h3, hpad, fun _ h => nomatch h⟩
  | case4 a b c rest ih =>
    obtain ⟨h1, h2, h3, h4⟩ := enc3_lt a.toNat_lt b.toNat_lt c.toNat_lt
    simp only [b64enc, List.forall_mem_cons]
    exact ⟨henc _ h1, henc _ h2, henc _ h3, henc _ h4, ih⟩

/-- **alphabet**: every character of the payload is in the base64 alphabet or '='; none of them is an XML
metacharacter (so the `,innerxml` field that carries it verbatim cannot inject markup), all are printable ASCII. -/
theorem C14_alphabet (user secret : List UInt8) :
    ∀ c ∈ plainPayload user secret,
      (c ∈ alphabet ∨ c = '=') ∧ c ∉ ['<', '>', '&', '"', '\''] ∧ c.toNat < 128 ∧ 32 < c.toNat :=
  b64enc_forall ⟨.inr rfl, alphabet_table.2 _ List.mem_cons_self⟩
    (fun _ h => ⟨.inl (encChar_spec h).1, alphabet_table.2 _ (List.mem_cons_of_mem _ (encChar_spec h).1)⟩) _

/-- **mechanism sound**: the chosen mechanism was advertised by the server and is one of the credential's. -/
theorem C14_mech_sound (credMechs offered : List String) (m : String)
    (h : selectMech credMechs offered = some m) : m ∈ offered ∧ m ∈ credMechs := by
  unfold selectMech at h
  exact ⟨by simpa using List.find?_some h, List.mem_of_find?_eq_some h⟩

/-- **first**: it is the first such mechanism in the credential's order: no earlier one is advertised. -/
theorem C14_mech_first (credMechs offered : List String) (m : String)
    (h : selectMech credMechs offered = some m) :
    ∃ pre post, credMechs = pre ++ m :: post ∧ ∀ x ∈ pre, x ∉ offered := by
  unfold selectMech at h
  obtain ⟨_, pre, post, e, hpre⟩ := List.find?_eq_some_iff_append.mp h
  exact ⟨pre, post, e, fun x hx => by simpa using hpre x hx⟩

/-- a mechanism is chosen whenever one of the credential's is advertised -/
theorem C14_mech_complete (credMechs offered : List String) :
    selectMech credMechs offered = none ↔ ∀ x ∈ credMechs, x ∉ offered := by
  unfold selectMech
  simp [List.find?_eq_none]

/-- what is sent names a mechanism that is advertised, belongs to the credential and is PLAIN or X-OAUTH2, and
carries the exact payload - for any credential mechanism list, user, secret, server list, write result and reply. -/
theorem C14_sent_sound (credMechs offered : List String) (user secret : List UInt8) (w : WriteMode) (r : Reply)
    (m : String) (p : List Char) (h : (authSASL credMechs user secret offered w r).sent = some (m, p)) :
    m ∈ offered ∧ m ∈ credMechs ∧ (m = "PLAIN" ∨ m = "X-OAUTH2") ∧ p = plainPayload user secret := by
  unfold authSASL at h
  split at h
  next m' hs =>
    split at h
    next hi =>
      cases w <;> cases h
      obtain ⟨ho, hc⟩ := C14_mech_sound _ _ _ hs
      exact ⟨ho, hc, by simpa [implemented] using hi, rfl⟩
    next => cases h
  next => cases h

/-- **none sends nothing**: without a common mechanism nothing is written and the error is permanent. -/
theorem C14_none_sends_nothing (credMechs offered : List String) (user secret : List UInt8) (w : WriteMode)
    (r : Reply) (h : ∀ x ∈ credMechs, x ∉ offered) :
    authSASL credMechs user secret offered w r = ⟨none, .err true⟩ := by
  unfold authSASL
  rw [(C14_mech_complete credMechs offered).mpr h]

/-- **only success authenticates**: the outcome is `ok` exactly when a mechanism was chosen, the element was
written and the reply is `<success/>`; in particular no other reply (failure, any other packet, EOF, garbage) is
ever treated as authenticated. -/
theorem C14_only_success_authenticates (credMechs offered : List String) (user secret : List UInt8)
    (w : WriteMode) (r : Reply) :
    (authSASL credMechs user secret offered w r).outcome = .ok ↔
      (∃ m, selectMech credMechs offered = some m ∧ implemented m = true) ∧ w = .ok ∧ r = .success := by
  unfold authSASL
  cases hs : selectMech credMechs offered with
  | none => simp
  | some m =>
    cases hi : implemented m with
    | false => simp [hi]
    | true => cases w <;> cases r <;> simp [hi, authPlain, authOutcome]

/-- **failure is permanent**: once the element was written, a `<failure/>` reply yields a permanent error. -/
theorem C14_failure_permanent (credMechs offered : List String) (user secret : List UInt8) (w : WriteMode)
    (h : (authSASL credMechs user secret offered w .failure).sent.isSome = true) :
    (authSASL credMechs user secret offered w .failure).outcome = .err true := by
  unfold authSASL at h ⊢
  cases hs : selectMech credMechs offered with
  | none => rfl
  | some m =>
    rw [hs] at h
    cases hi : implemented m with
    | false => simp [hi]
    | true =>
      simp only [hi, if_true] at h ⊢
      cases w <;> simp [authPlain, authOutcome] at h ⊢

/-- an error is never silently dropped: every outcome other than `ok` is an error -/
theorem C14_outcome_cases (credMechs offered : List String) (user secret : List UInt8) (w : WriteMode) (r : Reply) :
    (authSASL credMechs user secret offered w r).outcome = .ok ∨
    ∃ p, (authSASL credMechs user secret offered w r).outcome = .err p := by
  cases (authSASL credMechs user secret offered w r).outcome with
  | ok => exact .inl rfl
  | err p => exact .inr ⟨p, rfl⟩

private theorem kind_mechs (k : Kind) (m : String) (h : m ∈ k.mechs) :
    supports k m = true ∧ implemented m = true := by
  cases k with
  | password | token =>
    rw [List.mem_singleton.mp h]
    exact ⟨rfl, rfl⟩

private theorem no_common_none (c : Case) (h : hasCommon c = false) : selectMech c.kind.mechs c.offered = none := by
  rw [C14_mech_complete]
  intro x hx hm
  have : hasCommon c = true := List.any_eq_true.mpr ⟨x, hm, (kind_mechs _ _ hx).1⟩
  rw [h] at this
  cases this

/-- **oracle accepts model**: for every case the oracle accepts the model's own observation. -/
theorem C14_oracle_accepts_model (c : Case) :
    holds c (authSASL c.kind.mechs c.user c.secret c.offered c.wmode c.reply) = true := by
  obtain ⟨kind, user, secret, offered, w, r⟩ := c
  cases hs : selectMech kind.mechs offered with
  | none => simp [holds, authSASL, hs]
  | some m =>
    obtain ⟨hmo, hmc⟩ := C14_mech_sound _ _ _ hs
    obtain ⟨hsup, hi⟩ := kind_mechs _ _ hmc
    have hcom : hasCommon ⟨kind, user, secret, offered, w, r⟩ = true := List.any_eq_true.mpr ⟨m, hmo, hsup⟩
    have hrt := C14_b64_rt (0 :: (user ++ 0 :: secret))
    -- the twelve rows of `authPlain`. What was sent is accepted by `hmo`, `hsup` and `hrt`, the second conjunct of
    -- `holds` by `hcom`; the last two are read off the table `authOutcome`.
    cases w <;> cases r <;>
      simp [holds, authSASL, hs, hi, authPlain, authOutcome, hcom, hmo, hsup, plainPayload, rawPlain, hrt]

private def ascii (s : String) : List UInt8 := s.toList.map fun c => UInt8.ofNat c.toNat

-- RFC 4648 section 10 vectors
example : b64enc (ascii "") = "".toList := by decide +kernel
example : b64enc (ascii "f") = "Zg==".toList := by decide +kernel
example : b64enc (ascii "fo") = "Zm8=".toList := by decide +kernel
example : b64enc (ascii "foo") = "Zm9v".toList := by decide +kernel
example : b64enc (ascii "foob") = "Zm9vYg==".toList := by decide +kernel
example : b64enc (ascii "fooba") = "Zm9vYmE=".toList := by decide +kernel
example : b64enc (ascii "foobar") = "Zm9vYmFy".toList := by decide +kernel
-- RFC 6120 section 6.4.2 style: NUL juliet NUL r0m30myr0m30
example : plainPayload (ascii "juliet") (ascii "r0m30myr0m30") = "AGp1bGlldAByMG0zMG15cjBtMzA=".toList := by decide +kernel
example : selectMech ["PLAIN"] ["SCRAM-SHA-1", "PLAIN"] = some "PLAIN" := by decide +kernel
example : selectMech ["PLAIN"] ["X-OAUTH2", "plain"] = none := by decide +kernel
example : (authSASL Kind.token.mechs [97] [98] ["X-OAUTH2"] .ok .success).outcome = .ok := by decide +kernel
example : (authSASL Kind.password.mechs [97] [98] ["PLAIN"] .ok .failure).sent.isSome = true := by decide +kernel
-- the hypotheses of C14_payload_inj are satisfiable, and the theorem is not vacuous without them: NUL in the user
-- name is exactly what makes two different pairs collide
example : (0 : UInt8) ∉ ([97, 255] : List UInt8) := by decide
example : plainPayload [97, 0, 98] [99] = plainPayload [97] [98, 0, 99] :=
  congrArg b64enc (by decide : rawPlain [97, 0, 98] [99] = rawPlain [97] [98, 0, 99])
-- a case without a common mechanism exists, so the clause of `holds` about it is not vacuous
example : ∃ c : Case, hasCommon c = false := ⟨⟨.password, [], [], ["X-OAUTH2"], .ok, .success⟩, by decide⟩

end XmppVerif.Props.C14

#print axioms XmppVerif.Props.C14.C14_b64_rt
#print axioms XmppVerif.Props.C14.C14_b64_inj
#print axioms XmppVerif.Props.C14.C14_b64_length
#print axioms XmppVerif.Props.C14.C14_payload_exact
#print axioms XmppVerif.Props.C14.C14_payload_inj
#print axioms XmppVerif.Props.C14.C14_alphabet
#print axioms XmppVerif.Props.C14.C14_mech_sound
#print axioms XmppVerif.Props.C14.C14_mech_first
#print axioms XmppVerif.Props.C14.C14_mech_complete
#print axioms XmppVerif.Props.C14.C14_sent_sound
#print axioms XmppVerif.Props.C14.C14_none_sends_nothing
#print axioms XmppVerif.Props.C14.C14_only_success_authenticates
#print axioms XmppVerif.Props.C14.C14_failure_permanent
#print axioms XmppVerif.Props.C14.C14_outcome_cases
#print axioms XmppVerif.Props.C14.C14_oracle_accepts_model
