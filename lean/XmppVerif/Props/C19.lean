import XmppVerif.Spec.C19
/-
C19 - reconnection back-off delays are bounded and grow exponentially up to the cap.
-/
namespace XmppVerif.Props.C19
open XmppVerif.Model.C19 XmppVerif.Spec.C19

theorem setDefault_pos (c : Cfg) : 0 < (setDefault c).base ∧ 0 < (setDefault c).factor ∧ 0 < (setDefault c).cap := by
  simp only [setDefault, defaultBase, defaultFactor, defaultCap]
  refine ⟨?_, ?_, ?_⟩ <;> split <;> omega

private theorem sd_cap_pos (c : Cfg) : 0 < (setDefault c).cap := (setDefault_pos c).2.2

/-- Cutting the exponent at `k` is not seen once `2 ^ k` exceeds the cap: with factor 1 the power is constant, with
factor ≥ 2 both products are above the cap. -/
theorem min_pow_cut {b f cap k n : Nat} (hb : 0 < b) (hf : 0 < f) (hcap : cap < 2 ^ k) :
    min cap (b * f ^ min n k) = min cap (b * f ^ n) := by
  by_cases hn : n ≤ k
  · rw [Nat.min_eq_left hn]
  · by_cases hf1 : f = 1
    · rw [hf1, Nat.one_pow, Nat.one_pow]
    · have big : ∀ m, k ≤ m → cap ≤ b * f ^ m := fun m hm =>
        calc cap ≤ 2 ^ k := Nat.le_of_lt hcap
          _ ≤ 2 ^ m := Nat.pow_le_pow_right (by omega) hm
          _ ≤ f ^ m := Nat.pow_le_pow_left (by omega) m
          _ ≤ b * f ^ m := Nat.le_mul_of_pos_left _ hb
      rw [Nat.min_eq_left (big _ (Nat.le_min.mpr ⟨by omega, Nat.le_refl k⟩)), Nat.min_eq_left (big n (by omega))]

/-- The executable model (exponent cut at 64) equals the uncut specification min(cap, base*factor^n) for every
attempt number, however large, whenever the cap is a Go `int`. -/
theorem C19_model_eq_spec (c : Cfg) (n : Nat) (hc : (setDefault c).cap < 2^63) :
    durMs c n = specMs c n :=
  min_pow_cut (setDefault_pos c).1 (setDefault_pos c).2.1 (Nat.lt_trans hc (by decide))

/-- Never above the cap (and, in `Nat`, never negative), for every n and every setting. -/
theorem C19_le_cap (c : Cfg) (n : Nat) : specMs c n ≤ (setDefault c).cap :=
  Nat.min_le_left _ _

/-- Equals min(cap, base*factor^n) by definition of the spec; stated for the positive settings the property names. -/
theorem C19_eq_min (b f cp : Nat) (nj : Bool) (n : Nat) (hb : 0 < b) (hf : 0 < f) (hcp : 0 < cp) :
    specMs ⟨b, f, cp, nj⟩ n = min cp (b * f ^ n) := by
  simp [specMs, setDefault, Nat.ne_of_gt hb, Nat.ne_of_gt hf, Nat.ne_of_gt hcp]

/-- Non-decreasing in the attempt number. -/
theorem C19_mono (c : Cfg) (n m : Nat) (h : n ≤ m) : specMs c n ≤ specMs c m := by
  have hp := Nat.mul_le_mul_left (setDefault c).base (Nat.pow_le_pow_right (setDefault_pos c).2.1 h)
  simp only [specMs]
  omega

/-- Conversion to nanoseconds does not wrap when the cap is at most 9223372036854 ms (≈ 292 years): that is
⌊(2^63 - 1) / 10^6⌋, the largest number of milliseconds whose nanoseconds fit an int64. -/
theorem C19_ns_exact (c : Cfg) (n : Nat) (hc : (setDefault c).cap ≤ 9223372036854) :
    durNs c n = (specMs c n : Int) * 1000000 := by
  have hle := C19_le_cap c n
  rw [durNs, C19_model_eq_spec c n (by omega), toInt64, Nat.mod_eq_of_lt (by omega), if_pos (by omega)]
  simp

theorem holdsVal_iff (c : Cfg) (n : Nat) (obs : Int) :
    holdsVal c n obs = true ↔
      0 ≤ obs ∧ obs ≤ ((setDefault c).cap : Int) * 1000000 ∧
      (if c.noJitter = true then obs = (specMs c n : Int) * 1000000 else obs ≤ (specMs c n : Int) * 1000000) := by
  unfold holdsVal holdsWith capNs
  split <;> simp [and_assoc]

/-- The model's value satisfies the oracle (bounds and, without jitter, the exact formula). -/
theorem C19_val_ok (c : Cfg) (n : Nat) (hc : (setDefault c).cap ≤ 9223372036854) :
    holdsVal c n (durNs c n) = true := by
  have hle := C19_le_cap c n
  rw [C19_ns_exact c n hc, holdsVal_iff]
  refine ⟨by omega, by omega, ?_⟩
  split
  · rfl
  · exact Int.le_refl _

/-- With jitter: any draw `0 ≤ j < bound` (the contract of `rand.Intn`) lies between zero and the no-jitter value. -/
theorem C19_jitter_ok (c : Cfg) (n : Nat) (j : Int) (hj : c.noJitter = false)
    (hc : (setDefault c).cap ≤ 9223372036854) (h0 : 0 ≤ j) (h1 : j < durNs c n) :
    holdsVal c n j = true := by
  have hle := C19_le_cap c n
  rw [C19_ns_exact c n hc] at h1
  rw [holdsVal_iff, hj, if_neg Bool.false_ne_true]
  exact ⟨h0, by omega, by omega⟩

/-- The oracle the driver executes is the property's oracle, for every cap that is a Go `int`. -/
theorem C19_exec_oracle_eq (c : Cfg) (n : Nat) (obs : Int) (hc : (setDefault c).cap < 2^63) :
    holdsValExec c n obs = holdsVal c n obs := by
  rw [holdsValExec, holdsVal, C19_model_eq_spec c n hc]

def oracleRun (s : St) (o : OState) : List Op → Bool
  | [] => true
  | op :: ops =>
    let (s', v) := step s op
    let (ok, o') := holdsStep o op v
    ok && oracleRun s' o' ops

/-- **Stateful sequence = per-attempt query = spec**: for every history of duration()/durationForAttempt(n)/reset
calls, every value the model returns satisfies the oracle, where the oracle counts the waits since the last reset
itself: the k-th wait equals min(cap, base*factor^(k-1)) and durationForAttempt(n) equals min(cap, base*factor^n). -/
theorem C19_history (ops : List Op) : ∀ (s : St) (o : OState),
    o.cfg = s.cfg → o.count = s.attempt → (setDefault s.cfg).cap ≤ 9223372036854 →
    oracleRun s o ops = true := by
  induction ops with
  | nil => intros; rfl
  | cons op ops ih =>
    -- with the oracle's state written as the model's, the premises of `ih` hold by `rfl`
    intro s ⟨_, _⟩ hcfg hcnt hc
    subst hcfg hcnt
    cases op
    all_goals
      simp only [oracleRun, step, holdsStep, holdsStepWith, C19_val_ok _ _ hc, Bool.true_and]
      exact ih _ _ rfl rfl hc

/-- Recorded finding F-19b (known_findings.json): outside the hypothesis of `C19_ns_exact` the property fails.
With Cap = 2^62 ms the int64 product `d * time.Millisecond` wraps (to 0 here). -/
theorem C19_witness_overflow :
    holdsValExec ⟨20, 2, 2^62, true⟩ 100 (durNs ⟨20, 2, 2^62, true⟩ 100) = false ∧
    knownOverflow ⟨20, 2, 2^62, true⟩ = true := by decide

private theorem run_dur_replicate (cfg : Cfg) (k a : Nat) :
    (run ⟨cfg, a⟩ (List.replicate k .dur)).2 = (List.range' a k).map (durNs cfg) := by
  induction k generalizing a with
  | zero => rfl
  | succ k ih => simp only [List.replicate_succ, run, step, List.range'_succ, List.map_cons, ih (a + 1)]

/-- **The reconnection loop of the StreamManager**: after the n-th consecutive failed attempt (n = 0, 1, …) of one
connection loss the wait is drawn below min(3 min, 20 ms · 2^n): the bounds of the first k waits are exactly these
values, in this order - so they never exceed the cap and never decrease. -/
theorem C19_supervisor (k : Nat) :
    supervisorBounds k = (List.range k).map (fun n => ((min 180000 (20 * 2 ^ n) : Nat) : Int) * 1000000) := by
  unfold supervisorBounds
  rw [run_dur_replicate, List.range_eq_range']
  -- `specMs supervisorCfg n` unfolds to `min 180000 (20 * 2 ^ n)`: the package defaults
  exact List.map_congr_left fun n _ => C19_ns_exact supervisorCfg n (by decide)

/-- The same, entry by entry: the bounds never decrease and none exceeds the cap of 3 minutes. -/
theorem C19_supervisor_bounded_mono (k i j : Nat) (hij : i ≤ j) (hj : j < k) :
    (supervisorBounds k)[i]! ≤ (supervisorBounds k)[j]! ∧ (supervisorBounds k)[j]! ≤ 180000 * 1000000 := by
  have get : ∀ n, n < k → (supervisorBounds k)[n]! = (specMs supervisorCfg n : Int) * 1000000 := fun n hn => by
    rw [C19_supervisor, List.getElem!_eq_getElem?_getD, List.getElem?_map, List.getElem?_range hn]
    rfl
  rw [get i (by omega), get j hj]
  have hmono := C19_mono supervisorCfg i j hij
  have hcap : specMs supervisorCfg j ≤ 180000 := C19_le_cap supervisorCfg j
  omega

-- non-vacuity: the defaults satisfy every hypothesis, and the values are the expected ones
example : (setDefault ⟨0, 0, 0, true⟩).cap ≤ 9223372036854 := by decide
example : specMs ⟨0, 0, 0, true⟩ 0 = 20 ∧ specMs ⟨0, 0, 0, true⟩ 5 = 640 ∧ specMs ⟨0, 0, 0, true⟩ 14 = 180000 := by decide
example : supervisorBounds 4 = [20000000, 40000000, 80000000, 160000000] := by decide
example : (run ⟨⟨0,0,0,true⟩, 0⟩ [.dur, .dur, .durFor 5, .reset, .dur]).2 = [20000000, 40000000, 640000000, 0, 20000000] := by decide

end XmppVerif.Props.C19

#print axioms XmppVerif.Props.C19.C19_model_eq_spec
#print axioms XmppVerif.Props.C19.C19_le_cap
#print axioms XmppVerif.Props.C19.C19_eq_min
#print axioms XmppVerif.Props.C19.C19_mono
#print axioms XmppVerif.Props.C19.C19_ns_exact
#print axioms XmppVerif.Props.C19.C19_val_ok
#print axioms XmppVerif.Props.C19.C19_jitter_ok
#print axioms XmppVerif.Props.C19.C19_exec_oracle_eq
#print axioms XmppVerif.Props.C19.C19_history
#print axioms XmppVerif.Props.C19.C19_witness_overflow
#print axioms XmppVerif.Props.C19.C19_supervisor
#print axioms XmppVerif.Props.C19.C19_supervisor_bounded_mono
