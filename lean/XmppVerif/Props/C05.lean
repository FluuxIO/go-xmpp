import XmppVerif.Props.Recv
import XmppVerif.Spec.RecvObs
/-
C05 - every inbound stanza reaches the router exactly once.
-/
namespace XmppVerif.Props.C05
open XmppVerif.Model.Recv XmppVerif.Spec.Recv XmppVerif.Spec.RecvObs XmppVerif.Props.Recv

/-- **Client, exactly once**: for every inbound history and every starting state, the stanzas handed to the router
are exactly the stanzas of the history up to the point where the loop stopped - each once, none dropped, none
invented (listed here in spawn order; the goroutines make the observable order a permutation). -/
theorem C05_client_exactly_once (s : St) (ins : List In) :
    routedStanzas (clientRecv s ins).2 = (processed ins).filterMap stanzaOf :=
  (client_facts ins s).routed

private theorem answers_len (ins : List In) : ∀ n, (refAnswers n (processed ins)).length = reqCount (processed ins) := by
  induction ins with
  | nil => intro n; rfl
  | cons i rest ih =>
    intro n
    rw [processed_cons]
    cases hstop : stops i with
    | true => rfl
    | false =>
      rw [if_neg (by simp), refAnswers_cons, reqCount_cons _ _ hstop, List.length_append, ih]
      cases isReq i <;> rfl

/-- **Every acknowledgement request is answered** (one `<a/>` per `<r/>` whose answer could be written). -/
theorem C05_every_r_answered (s : St) (ins : List In) :
    (answers (clientRecv s ins).2).length = reqCount (processed ins) := by
  rw [(client_facts ins s).answersE, answers_len]

/-- **Component, in order**: every packet before the stop is routed synchronously in arrival order. -/
theorem C05_component_in_order (ins : List In) :
    routedAll (componentRecv ins) = (processedC ins).flatMap routesOfC :=
  (component_facts ins).routed

/-- Nothing completely received before a connection loss is dropped: if the history is `pre ++ cut :: post` and
`pre` contains nothing that stops the loop, every stanza of `pre` is routed. -/
theorem C05_nothing_before_loss_dropped (s : St) (pre post : List In) (h : ∀ i ∈ pre, stops i = false) :
    routedStanzas (clientRecv s (pre ++ .cut :: post)).2 = pre.filterMap stanzaOf := by
  rw [C05_client_exactly_once, (processed_stopper_append_stop pre post .cut h rfl).1]

private theorem comp_stanzas (l : List In) :
    (l.flatMap routesOfC).filter (·.isStanza) = l.filterMap stanzaOf := by
  induction l with
  | nil => rfl
  | cons i rest ih =>
    rw [List.flatMap_cons, List.filter_append, ih, List.filterMap_cons]
    cases i with
    | cut => rfl
    | pkt p f => cases p <;> rfl

/-- the conjunct `holdsC05` and `holdsC12` share: the stanzas routed are all of those before the stop, each once -/
theorem routed_accepted (c : Case) :
    sameRouted c ((modelSummary c).routed.filter (·.isStanza)) (expectedStanzas c) = true := by
  unfold modelSummary sameRouted expectedStanzas
  cases hc : c.client with
  | true =>
    simp only [if_true, summarise]
    rw [routed_filter, C05_client_exactly_once]
    exact List.isPerm_iff.mpr (List.Perm.refl _)
  | false =>
    simp only [Bool.false_eq_true, if_false, summarise, decide_eq_true_eq]
    rw [C05_component_in_order, comp_stanzas]

/-- The model never panics and its observation satisfies the C05 oracle, for every case (client or component,
stream management negotiated or not, any history). -/
theorem C05_oracle_accepts_model (c : Case) : holdsC05 c (modelSummary c) = true := by
  unfold holdsC05
  rw [routed_accepted, Bool.true_and]
  unfold modelSummary
  cases hc : c.client with
  | true => simp [summarise, C05_every_r_answered]
  | false => rfl

-- non-vacuity: a history with every kind of element; the stop is the cut, later stanzas are not routed
example : routedStanzas (clientRecv ⟨"sm", 0⟩
    [.pkt (.msg "1") false, .pkt .r false, .pkt (.a 3) false, .pkt (.nonza "features") false, .pkt (.iq "2") false,
     .cut, .pkt (.msg "never") false]).2 = [.msg "1", .iq "2"] := by decide

end XmppVerif.Props.C05

#print axioms XmppVerif.Props.C05.C05_client_exactly_once
#print axioms XmppVerif.Props.C05.C05_every_r_answered
#print axioms XmppVerif.Props.C05.C05_component_in_order
#print axioms XmppVerif.Props.C05.C05_nothing_before_loss_dropped
#print axioms XmppVerif.Props.C05.C05_oracle_accepts_model
