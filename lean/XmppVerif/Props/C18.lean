import XmppVerif.Model.C18
/-
C18 - keepalive: sent at the interval, closes a dead connection, stops with the session.
Logic only; that the ticker fires every `interval` and that `Ping` returns quickly are runtime facts (sampled).
-/
namespace XmppVerif.Props.C18
open XmppVerif.Model.C18

def pings (as : List Act) : Nat := (as.filter (· == .ping)).length
def closes (as : List Act) : Nat := (as.filter (· == .close)).length
def fires (es : List Ev) : Nat := (es.filter (· == .fire)).length
def failedPing : Ev → Bool
  | .iter true _ => true
  | _ => false

/-- 1 while a tick is waiting in the ticker's channel -/
def pend (s : St) : Nat := if s.pending then 1 else 0

theorem run_cons (s : St) (e : Ev) (es : List Ev) :
    run s (e :: es) = ((run (step s e).1 es).1, (step s e).2 ++ (run (step s e).1 es).2) := rfl

/-- the `case <-ticker.C` arm of the `select`: taken when a tick is pending and quit is not closed or Go picks the tick -/
theorem iter_tick (s : St) (fails choose : Bool) (hs : s.stopped = false) (hp : s.pending = true)
    (hq : s.quitClosed = false ∨ choose = true) :
    step s (.iter fails choose) =
      ({ s with pending := false, stopped := fails }, .ping :: if fails then [.close, .stop] else []) := by
  have hb : (s.pending && (!s.quitClosed || choose)) = true := by
    rcases hq with h | h <;> simp [hp, h]
  cases fails <;> simp [step, hs, hb]

/-- The three things one `select` iteration can do: nothing (returned already, or both channels empty), take the
pending tick and ping (closing and returning if the ping fails), or take quit and return. -/
theorem iter_cases (s : St) (fails choose : Bool) :
    step s (.iter fails choose) = (s, []) ∨
    (s.stopped = false ∧ s.pending = true ∧ step s (.iter fails choose) =
      ({ s with pending := false, stopped := fails }, .ping :: if fails then [.close, .stop] else [])) ∨
    (s.stopped = false ∧ step s (.iter fails choose) = ({ s with stopped := true }, [.stop])) := by
  cases hs : s.stopped with
  | true => exact Or.inl (by simp [step, hs])
  | false =>
    cases hb : s.pending && (!s.quitClosed || choose) with
    | true =>
      obtain ⟨hp, hq⟩ := Bool.and_eq_true_iff.mp hb
      have hq' : s.quitClosed = false ∨ choose = true := by simpa using hq
      exact Or.inr (Or.inl ⟨rfl, hp, iter_tick s fails choose hs hp hq'⟩)
    | false =>
      cases hq : s.quitClosed with
      | true =>
        rw [hq] at hb
        exact Or.inr (Or.inr ⟨rfl, by simp only [step, hs, hq, hb, Bool.false_eq_true, ↓reduceIte]⟩)
      | false =>
        rw [hq] at hb
        exact Or.inl (by simp only [step, hs, hq, hb, Bool.false_eq_true, ↓reduceIte])

theorem pings_append (as bs : List Act) : pings (as ++ bs) = pings as + pings bs := by
  simp [pings]

theorem closes_append (as bs : List Act) : closes (as ++ bs) = closes as + closes bs := by
  simp [closes]

private theorem step_pings (s : St) (e : Ev) :
    pings (step s e).2 + pend (step s e).1 ≤ fires [e] + pend s := by
  cases e with
  | fire =>
    -- a tick fired while one is pending is dropped (buffer 1), and none fires after the return: `pend` stays ≤ 1
    simp only [step, pings, pend, fires]
    split <;> split <;> simp
  | closeQuit => exact Nat.le_refl _
  | iter fails choose =>
    rcases iter_cases s fails choose with h | ⟨-, hp, h⟩ | ⟨-, h⟩ <;> rw [h]
    · simp [pings, fires]
    · cases fails <;> simp [pings, pend, fires, hp]
    · simp [pings, pend, fires]

private theorem step_closes (s : St) (e : Ev) :
    closes (step s e).2 ≤ 1 ∧ (closes (step s e).2 = 1 → failedPing e = true ∧ (step s e).1.stopped = true) := by
  cases e with
  | fire | closeQuit => simp [step, closes]
  | iter fails choose =>
    rcases iter_cases s fails choose with h | ⟨-, -, h⟩ | ⟨-, h⟩ <;> rw [h]
    · simp [closes]
    · cases fails <;> simp [closes, failedPing]
    · simp [closes]

/-- once the goroutine has returned nothing happens any more: no ping, no close -/
theorem C18_stopped_is_final (es : List Ev) : ∀ s : St, s.stopped = true → (run s es).2 = [] := by
  induction es with
  | nil => intro s _; rfl
  | cons e es ih =>
    intro s h
    have hstep : (step s e).2 = [] ∧ (step s e).1.stopped = true := by cases e <;> simp [step, h]
    rw [run_cons, hstep.1]
    exact ih _ hstep.2

private theorem fires_cons (e : Ev) (es : List Ev) : fires (e :: es) = fires [e] + fires es := by
  simp only [fires, ← List.length_append, ← List.filter_append]
  rfl

/-- **One ping per tick**: in every run, the pings so far plus a still-pending tick never exceed the ticks fired
plus the tick that was pending at the start. -/
theorem C18_ping_per_tick (es : List Ev) : ∀ s : St,
    pings (run s es).2 + pend (run s es).1 ≤ fires es + pend s := by
  induction es with
  | nil => intro s; simp [run, pings, fires]
  | cons e es ih =>
    intro s
    rw [run_cons, fires_cons]
    -- reduce the projections of the pair `run_cons` gives
    dsimp only
    rw [pings_append]
    have h1 := step_pings s e
    have h2 := ih (step s e).1
    omega

/-- **A tick produces a ping**: while the session is up (quit not closed, not stopped) an iteration with a pending
tick pings; with a successful write it keeps running. -/
theorem C18_tick_pings (s : St) (fails choose : Bool) (hp : s.pending = true) (hq : s.quitClosed = false)
    (hs : s.stopped = false) :
    (step s (.iter fails choose)).2.head? = some .ping ∧
    (fails = false → (step s (.iter fails choose)).1.stopped = false) := by
  rw [iter_tick s fails choose hs hp (Or.inl hq)]
  cases fails <;> simp

/-- **A failed ping closes the transport once and stops**: the first failing ping is followed by exactly one
`close` and the return; nothing happens afterwards, whatever events follow. -/
theorem C18_fail_closes_once_and_stops (s : St) (choose : Bool) (es : List Ev)
    (hp : s.pending = true) (hq : s.quitClosed = false ∨ choose = true) (hs : s.stopped = false) :
    (run s (.iter true choose :: es)).2 = [.ping, .close, .stop] := by
  rw [run_cons, iter_tick s true choose hs hp hq]
  -- reduce the projections; the state left behind has `stopped := true`
  simp only
  rw [C18_stopped_is_final es _ rfl]
  rfl

/-- at most one `close` in any run, and only after a failed ping -/
theorem C18_close_at_most_once (es : List Ev) : ∀ s : St,
    closes (run s es).2 ≤ 1 ∧ (closes (run s es).2 = 1 → es.any failedPing = true) := by
  induction es with
  | nil => intro s; simp [run, closes]
  | cons e es ih =>
    intro s
    obtain ⟨h1, h2⟩ := step_closes s e
    obtain ⟨h3, h4⟩ := ih (step s e).1
    rw [run_cons, closes_append, List.any_cons, Bool.or_eq_true]
    by_cases hc : closes (step s e).2 = 1
    · -- this step closed: the goroutine has returned, nothing follows
      obtain ⟨hf, hst⟩ := h2 hc
      rw [C18_stopped_is_final es _ hst, hc]
      exact ⟨Nat.le_refl 1, fun _ => Or.inl hf⟩
    · have h0 : closes (step s e).2 = 0 := by omega
      rw [h0, Nat.zero_add]
      exact ⟨h3, fun h => Or.inr (h4 h)⟩

/-- **Stops with the session**: once quit is closed, an iteration that finds no pending tick (or chooses quit)
returns without pinging or closing. -/
theorem C18_quit_stops (s : St) (fails choose : Bool) (hq : s.quitClosed = true) (hs : s.stopped = false)
    (h : s.pending = false ∨ choose = false) :
    step s (.iter fails choose) = ({ s with stopped := true }, [.stop]) := by
  rcases h with h | h <;> simp [step, hq, hs, h]

/-- **After the session ended**: pings after `closeQuit` are bounded by the tick pending at that moment plus the
ticks that fire afterwards; with no further tick (Ping much faster than the interval) that is at most ONE. Zero
cannot be promised: Go's `select` may pick the ready tick over the closed quit channel. -/
theorem C18_at_most_one_after_close (es : List Ev) (s : St) :
    pings (run s es).2 ≤ fires es + pend s := by
  have := C18_ping_per_tick es s
  omega

-- non-vacuity: tick, ping, tick, failing ping closes; quit after that changes nothing
example : (run init [.fire, .iter false false, .fire, .iter true false, .closeQuit, .fire, .iter false true]).2
    = [.ping, .ping, .close, .stop] := by decide
example : (run init [.fire, .closeQuit, .iter false true, .iter false true]).2 = [.ping, .stop] := by decide
example : (run init [.fire, .closeQuit, .iter false false]).2 = [.stop] := by decide

end XmppVerif.Props.C18

#print axioms XmppVerif.Props.C18.C18_stopped_is_final
#print axioms XmppVerif.Props.C18.C18_ping_per_tick
#print axioms XmppVerif.Props.C18.C18_tick_pings
#print axioms XmppVerif.Props.C18.C18_fail_closes_once_and_stops
#print axioms XmppVerif.Props.C18.C18_close_at_most_once
#print axioms XmppVerif.Props.C18.C18_quit_stops
#print axioms XmppVerif.Props.C18.C18_at_most_one_after_close
