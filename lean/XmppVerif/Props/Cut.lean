/-
The cut of a list at the first occurrence of a separator: the NUL between user name and secret in the SASL PLAIN
payload (C14), the colon and the bracket of an address (C20).
-/
namespace XmppVerif.Props.Cut

theorem cut_at_first {α : Type} [BEq α] [LawfulBEq α] (c : α) (a t : List α) (ha : c ∉ a) :
    (a ++ c :: t).takeWhile (· != c) = a ∧ (a ++ c :: t).dropWhile (· != c) = c :: t := by
  have h : ∀ x ∈ a, (x != c) = true := fun x hx => bne_iff_ne.mpr fun e => ha (e ▸ hx)
  rw [List.takeWhile_append_of_pos h, List.dropWhile_append_of_pos h]
  simp

theorem split_at_sep {α : Type} [BEq α] [LawfulBEq α] {z : α} {l₁ l₂ r₁ r₂ : List α} (h₁ : z ∉ l₁) (h₂ : z ∉ l₂)
    (e : l₁ ++ z :: r₁ = l₂ ++ z :: r₂) : l₁ = l₂ ∧ r₁ = r₂ := by
  have ht := congrArg (List.takeWhile (· != z)) e
  have hd := congrArg (List.dropWhile (· != z)) e
  rw [(cut_at_first z l₁ r₁ h₁).1, (cut_at_first z l₂ r₂ h₂).1] at ht
  rw [(cut_at_first z l₁ r₁ h₁).2, (cut_at_first z l₂ r₂ h₂).2] at hd
  exact ⟨ht, (List.cons.inj hd).2⟩

end XmppVerif.Props.Cut
