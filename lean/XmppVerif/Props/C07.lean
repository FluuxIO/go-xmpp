import XmppVerif.Model.C07
/-
C07 - IQ responses reach the SendIQ caller exactly once; duplicates and races are harmless.
Inductive invariant over ALL interleavings of the model (Model/C07: one step = one atomic action of one goroutine).
-/
namespace XmppVerif.Props.C07
open XmppVerif.Model.C07

/-- The ghost location of a request ties the three parts of the state together: `tab`/`intab` - a table entry and
location `inTable` are the same thing; `holder`/`held` - a routing thread at `have k` or `sent k` and location
`held j` are the same thing; `haveSt`, `sentSt`, `idle`, `consumed` - what is in the channel and whether it is closed,
per location; `own` - a thread only holds a request registered under the id of its packet. -/
structure Inv (p : Params) (s : St) : Prop where
  safe     : s.panic = false ∧ s.blocked = false
  tab      : ∀ id k, s.table id = some k → s.loc k = .inTable ∧ p.reqId k = id
  intab    : ∀ k, s.loc k = .inTable → s.table (p.reqId k) = some k
  holder   : ∀ j k, (s.pc j = .have k ∨ s.pc j = .sent k) → s.loc k = .held j
  held     : ∀ k j, s.loc k = .held j → (s.pc j = .have k ∨ s.pc j = .sent k)
  haveSt   : ∀ j k, s.pc j = .have k → s.sent k = 0 ∧ s.closed k = false
  sentSt   : ∀ j k, s.pc j = .sent k → s.sent k = 1 ∧ s.closed k = false
  idle     : ∀ k, (s.loc k = .inTable ∨ s.loc k = .unreg ∨ s.loc k = .dropped) → s.sent k = 0 ∧ s.closed k = false
  consumed : ∀ k, s.loc k = .consumed → s.sent k = 1 ∧ s.closed k = true
  own      : ∀ j k, (s.pc j = .have k ∨ s.pc j = .sent k) → p.reqId k = p.pktId j ∧ p.isResp j = true

theorem inv_init (p : Params) : Inv p init := by
  constructor <;> simp [init]

theorem upd_upd {α β} [DecidableEq α] (f : α → β) (a : α) (b c : β) : upd (upd f a b) a c = upd f a c := by
  funext x
  simp only [upd]
  split <;> rfl

/-! One lemma per transition that changes the state. Every clause that speaks of an updated field follows from itself
and the few facts named with it, by cases on whether an index is the updated one. The `have`s in front of a record
(what the guard of the transition says about the request or thread it acts on) are in the context of every `grind`. -/

theorem inv_cancel (p : Params) (s : St) (k : Nat) (h : Inv p s) (ht : s.table (p.reqId k) = some k) :
    Inv p { s with table := upd s.table (p.reqId k) none, loc := upd s.loc k .dropped } :=
  have hloc := (h.tab _ _ ht).1
  { h with
    tab := by grind [upd, h.tab]
    intab := by grind [upd, h.intab]
    holder := by grind [upd, h.holder]
    held := by grind [upd, h.held]
    idle := by grind [upd, h.idle]
    consumed := by grind [upd, h.consumed] }

theorem inv_register_free (p : Params) (s : St) (k : Nat) (h : Inv p s) (hl : s.loc k = .unreg)
    (ht : s.table (p.reqId k) = none) :
    Inv p { s with table := upd s.table (p.reqId k) (some k), loc := upd s.loc k .inTable } :=
  { h with
    tab := by grind [upd, h.tab]
    intab := by grind [upd, h.intab]
    holder := by grind [upd, h.holder]
    held := by grind [upd, h.held]
    idle := by grind [upd, h.idle]
    consumed := by grind [upd, h.consumed] }

/-- Registering under an id that an older request `k'` still holds is cancelling `k'` and then registering. -/
theorem inv_register (p : Params) (s : St) (k : Nat) (h : Inv p s) (hl : s.loc k = .unreg) :
    Inv p { s with table := upd s.table (p.reqId k) (some k),
                   loc := upd (match s.table (p.reqId k) with
                     | some k' => upd s.loc k' .dropped
                     | none => s.loc) k .inTable } := by
  cases ht : s.table (p.reqId k) with
  | none => exact inv_register_free p s k h hl ht
  | some k' =>
    obtain ⟨hl', hid'⟩ := h.tab _ _ ht
    have hk : k ≠ k' := fun e => by rw [e, hl'] at hl; cases hl
    have h' := inv_register_free p _ k (inv_cancel p s k' h (by rw [hid']; exact ht))
      (by simp only [upd, if_neg hk]; exact hl) (by simp only [upd, hid', if_true])
    simp only [hid', upd_upd] at h'
    exact h'

theorem inv_take_miss (p : Params) (s : St) (j : Nat) (h : Inv p s) (hpc : s.pc j = .start) :
    Inv p { s with pc := upd s.pc j .ordinary } :=
  { h with
    holder := by grind [upd, h.holder]
    held := by grind [upd, h.held]
    haveSt := by grind [upd, h.haveSt]
    sentSt := by grind [upd, h.sentSt]
    own := by grind [upd, h.own] }

theorem inv_take_hit (p : Params) (s : St) (j k : Nat) (h : Inv p s) (hpc : s.pc j = .start) (hr : p.isResp j = true)
    (ht : s.table (p.pktId j) = some k) :
    Inv p { s with table := upd s.table (p.pktId j) none, pc := upd s.pc j (.have k), loc := upd s.loc k (.held j) } :=
  have hloc := h.tab _ _ ht
  { h with
    tab := by grind [upd, h.tab]
    intab := by grind [upd, h.intab]
    holder := by grind [upd, h.holder]
    held := by grind [upd, h.held]
    haveSt := by grind [upd, h.haveSt, h.idle]
    sentSt := by grind [upd, h.sentSt]
    idle := by grind [upd, h.idle]
    consumed := by grind [upd, h.consumed]
    own := by grind [upd, h.own] }

theorem inv_send (p : Params) (s : St) (j k : Nat) (h : Inv p s) (hpc : s.pc j = .have k) :
    Inv p { s with sent := upd s.sent k (s.sent k + 1), pc := upd s.pc j (.sent k) } :=
  have hchan := h.haveSt j k hpc
  have hloc := h.holder j k (Or.inl hpc)
  { h with
    holder := by grind [upd, h.holder]
    held := by grind [upd, h.held]
    -- another thread at `have k` is excluded by `holder`; as E-matching lemmas `grind` does not find that instance
    haveSt := by have := h.holder; have := h.haveSt; grind [upd]
    sentSt := by grind [upd, h.sentSt]
    idle := by grind [upd, h.idle]
    consumed := by grind [upd, h.consumed]
    own := by grind [upd, h.own] }

theorem inv_close (p : Params) (s : St) (j k : Nat) (h : Inv p s) (hpc : s.pc j = .sent k) :
    Inv p { s with closed := upd s.closed k true, pc := upd s.pc j .done, loc := upd s.loc k .consumed } :=
  have hchan := h.sentSt j k hpc
  have hloc := h.holder j k (Or.inr hpc)
  { h with
    tab := by grind [upd, h.tab]
    intab := by grind [upd, h.intab]
    holder := by grind [upd, h.holder]
    held := by grind [upd, h.held]
    haveSt := by grind [upd, h.haveSt]
    -- as in `inv_send`, for another thread at `sent k`
    sentSt := by have := h.holder; have := h.sentSt; grind [upd]
    idle := by grind [upd, h.idle]
    consumed := by grind [upd, h.consumed]
    own := by grind [upd, h.own] }

theorem inv_step (p : Params) (s : St) (x : Step) (h : Inv p s) : Inv p (step p s x) := by
  cases x with
  | register k =>
    simp only [step]
    split
    · exact h
    · next hl => exact inv_register p s k h (Decidable.not_not.mp hl)
  | take j =>
    simp only [step]
    split
    · exact h
    · next hpc =>
      have hpc := Decidable.not_not.mp hpc
      split
      · next hr =>
        split
        · next k ht => exact inv_take_hit p s j k h hpc hr ht
        · exact inv_take_miss p s j h hpc
      · exact inv_take_miss p s j h hpc
  | send j =>
    simp only [step]
    split
    · next k hpc =>
      obtain ⟨hs, hc⟩ := h.haveSt j k hpc
      have hopen : ¬ s.closed k = true := by simp [hc]
      have hempty : ¬ s.sent k ≥ 1 := by omega
      rw [if_neg hopen, if_neg hempty]
      exact inv_send p s j k h hpc
    · exact h
  | close j =>
    simp only [step]
    split
    · next k hpc =>
      have hopen : ¬ s.closed k = true := by simp [(h.sentSt j k hpc).2]
      rw [if_neg hopen]
      exact inv_close p s j k h hpc
    · exact h
  | cancel k =>
    simp only [step]
    split
    · next ht => exact inv_cancel p s k h ht
    · exact h

/-- **Every interleaving preserves the invariant** - any list of atomic steps by any number of requests and routing
threads, with any assignment of ids (clashing ids included). -/
theorem C07_inv_all (p : Params) (xs : List Step) : ∀ s, Inv p s → Inv p (run p s xs) := by
  induction xs with
  | nil => intro s h; exact h
  | cons x xs ih => intro s h; exact ih _ (inv_step p s x h)

theorem C07_reachable (p : Params) (xs : List Step) : Inv p (run p init xs) :=
  C07_inv_all p xs init (inv_init p)

/-- **Never crashes, never blocks**: no interleaving sends on a closed channel, closes twice, or finds the 1-slot
channel full (so the routing goroutine - for a component: the receive loop - never waits for the caller). -/
theorem C07_no_panic_no_block (p : Params) (xs : List Step) :
    (run p init xs).panic = false ∧ (run p init xs).blocked = false :=
  (C07_reachable p xs).safe

theorem Inv.chan {p : Params} {s : St} (h : Inv p s) (k : Nat) :
    (s.sent k ≤ 1 ∧ s.closed k = false) ∨ (s.loc k = .consumed ∧ s.sent k = 1 ∧ s.closed k = true) := by
  match hl : s.loc k with
  | .unreg | .inTable | .dropped =>
    have := h.idle k (by simp [hl])
    exact Or.inl ⟨by omega, this.2⟩
  | .consumed => exact Or.inr ⟨rfl, h.consumed k hl⟩
  | .held j =>
    rcases h.held k j hl with hp | hp
    · have := h.haveSt j k hp
      exact Or.inl ⟨by omega, this.2⟩
    · have := h.sentSt j k hp
      exact Or.inl ⟨by omega, this.2⟩

/-- **At most one delivery per request**, however many duplicate responses are routed concurrently. -/
theorem C07_at_most_one_delivery (p : Params) (xs : List Step) (k : Nat) : (run p init xs).sent k ≤ 1 := by
  rcases (C07_reachable p xs).chan k with ⟨h, -⟩ | ⟨-, h, -⟩
  · exact h
  · omega

/-- **Never to another request**: a routing thread only ever holds (and sends into) the channel of a request
registered under exactly the id its packet carries, and only for result / error IQs. -/
theorem C07_no_foreign_delivery (p : Params) (xs : List Step) (j k : Nat)
    (h : (run p init xs).pc j = .have k ∨ (run p init xs).pc j = .sent k) :
    p.reqId k = p.pktId j ∧ p.isResp j = true :=
  (C07_reachable p xs).own j k h

/-- **Closed and unregistered after the delivery**: a closed channel has received exactly one value and its
pending entry is gone. -/
theorem C07_channel_closed_and_entry_removed (p : Params) (xs : List Step) (k : Nat)
    (hc : (run p init xs).closed k = true) :
    (run p init xs).sent k = 1 ∧ (run p init xs).table (p.reqId k) ≠ some k := by
  have h := C07_reachable p xs
  rcases h.chan k with ⟨-, hf⟩ | ⟨hl, hs, -⟩
  · rw [hf] at hc; cases hc
  · refine ⟨hs, fun ht => ?_⟩
    have := (h.tab _ _ ht).1
    rw [hl] at this; cases this

/-- **Delivery when registered**: from any reachable state in which request k is still pending, a response carrying
its id that is routed next is delivered and the channel is closed - in particular a response that arrives
immediately after the request was written, because the route is registered BEFORE the write (Tie.C07). -/
theorem C07_delivery_when_registered (p : Params) (xs : List Step) (j k : Nat)
    (hreg : (run p init xs).loc k = .inTable) (hj : (run p init xs).pc j = .start)
    (hid : p.pktId j = p.reqId k) (hr : p.isResp j = true) :
    let s' := run p (run p init xs) [.take j, .send j, .close j]
    s'.sent k = 1 ∧ s'.closed k = true ∧ s'.pc j = .done ∧ s'.table (p.reqId k) = none := by
  have h := C07_reachable p xs
  have ht := h.intab k hreg
  have hidle := h.idle k (Or.inl hreg)
  simp only [run, step, hj, hr, hid, ht, ne_eq, not_true_eq_false, if_false, if_true]
  simp [upd, hidle.1, hidle.2]

/-- **Unmatched packets go to the ordinary routes**: a response whose id is not pending (duplicate, late, foreign,
or its request was cancelled) and every IQ that is not a result / error is routed like any other packet. -/
theorem C07_unmatched_goes_to_routes (p : Params) (s : St) (j : Nat) (hj : s.pc j = .start)
    (h : p.isResp j = false ∨ s.table (p.pktId j) = none) :
    (step p s (.take j)).pc j = .ordinary ∧ (step p s (.take j)).table = s.table := by
  rcases h with h | h
  · simp [step, hj, h, upd]
  · cases hr : p.isResp j <;> simp [step, hj, h, hr, upd]

/-- a cancelled request is unregistered; a later response finds nothing -/
theorem C07_cancel_unregisters (p : Params) (s : St) (k : Nat) (h : s.table (p.reqId k) = some k) :
    (step p s (.cancel k)).table (p.reqId k) = none := by
  simp [step, h, upd]

/-- **The clean-up of a finished request removes only its own entry**: when the id has meanwhile been re-used by a
newer pending request k' (or the entry is gone), cancelling the older request's context changes nothing - the newer
request stays registered and will get its response (`C07_delivery_when_registered`). -/
theorem C07_cleanup_only_own (p : Params) (s : St) (k : Nat) (h : s.table (p.reqId k) ≠ some k) :
    step p s (.cancel k) = s := by
  simp [step, h]

-- id re-used: request 0 answered, request 1 re-uses the id, context of 0 cancelled, response arrives: 1 gets it
example : let p : Params := ⟨fun _ => 7, fun _ => 7, fun _ => true⟩
    let s := run p init [.register 0, .take 0, .send 0, .close 0, .register 1, .cancel 0, .take 1, .send 1, .close 1]
    s.sent 0 = 1 ∧ s.sent 1 = 1 ∧ s.closed 1 = true ∧ s.panic = false := by decide

-- non-vacuity: two responses for one request, interleaved; one is delivered, the other routed normally
example : let p : Params := ⟨fun _ => 7, fun _ => 7, fun _ => true⟩
    let s := run p init [.register 0, .take 0, .take 1, .send 0, .close 0]
    s.sent 0 = 1 ∧ s.closed 0 = true ∧ s.pc 1 = .ordinary ∧ s.panic = false := by decide

end XmppVerif.Props.C07

#print axioms XmppVerif.Props.C07.inv_init
#print axioms XmppVerif.Props.C07.inv_step
#print axioms XmppVerif.Props.C07.C07_inv_all
#print axioms XmppVerif.Props.C07.C07_no_panic_no_block
#print axioms XmppVerif.Props.C07.C07_at_most_one_delivery
#print axioms XmppVerif.Props.C07.C07_no_foreign_delivery
#print axioms XmppVerif.Props.C07.C07_channel_closed_and_entry_removed
#print axioms XmppVerif.Props.C07.C07_delivery_when_registered
#print axioms XmppVerif.Props.C07.C07_unmatched_goes_to_routes
#print axioms XmppVerif.Props.C07.C07_cancel_unregisters
#print axioms XmppVerif.Props.C07.C07_cleanup_only_own
