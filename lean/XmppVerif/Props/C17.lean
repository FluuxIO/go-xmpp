import XmppVerif.Spec.C17
/-
C17 - the unacknowledged-stanza queue is a FIFO with increasing sequence numbers.
-/
namespace XmppVerif.Props.C17
open XmppVerif.Model.C17 XmppVerif.Spec.C17

/-- Sequence numbers strictly increase in insertion (= queue) order. -/
def Inc (q : Q) : Prop := List.Pairwise (· < ·) (q.map (·.id))

instance (q : Q) : Decidable (Inc q) := by unfold Inc; infer_instance

theorem pop_eq (q : Q) : pop q = (q.take 1, q.drop 1) := by
  cases q <;> rfl

theorem popN_pos (q : Q) (k : Int) (hk : ¬ k ≤ 0) : popN q k = (q.take k.toNat, q.drop k.toNat) := by
  simp only [popN, peekN, hk, if_false, List.length_take]
  congr 1
  cases Nat.le_total k.toNat q.length with
  | inl h => rw [Nat.min_eq_left h]
  | inr h => rw [Nat.min_eq_right h, List.drop_eq_nil_of_le h, List.drop_length]

/-- One step of the plain slice operations is one step of the reference FIFO (simulation, any state). -/
theorem C17_step_refines_slice (q : Q) (op : Op) :
    abs (step q op).1 = (refStep (abs q) op).1 ∧ absOut (step q op).2 = (refStep (abs q) op).2 := by
  cases op with
  | push s => simp [step, refStep, push, abs, absOut]
  | pop => simp [step, refStep, pop_eq, abs, absOut]
  | popn k =>
    by_cases hk : k ≤ 0
    · simp [step, refStep, popN, peekN, hk, abs, absOut]
    · simp [step, refStep, popN_pos q k hk, hk, abs, absOut]
  | peek => simp [step, refStep, peek, abs, absOut]
  | peekn k =>
    by_cases hk : k ≤ 0
    · simp [step, refStep, peekN, hk, absOut]
    · simp [step, refStep, peekN, hk, abs, absOut]
  | empty => simp [step, refStep, abs, absOut]

/-- One step of the queue object (slice + persistent counter) is one step of the reference FIFO. -/
theorem C17_step_refines (s : QS) (op : Op) :
    abs (stepS s op).1.q = (refStep (abs s.q) op).1 ∧ absOut (stepS s op).2 = (refStep (abs s.q) op).2 := by
  cases op with
  | push x => simp [stepS, pushS, refStep, abs, absOut]
  | _ => exact C17_step_refines_slice s.q _

/-- **Refinement**: any operation sequence, from any queue, returns exactly what the reference
FIFO returns and ends holding exactly what it holds. -/
theorem C17_refines (ops : List Op) : ∀ s : QS,
    abs (runS s ops).1.q = (refRun (abs s.q) ops).1 ∧
    (runS s ops).2.map absOut = (refRun (abs s.q) ops).2 := by
  induction ops with
  | nil => intro s; simp [runS, refRun]
  | cons op ops ih =>
    intro s
    have h := C17_step_refines s op
    have ih' := ih (stepS s op).1
    simp only [runS, refRun]
    rw [← h.1, ← h.2]
    exact ⟨ih'.1, by simp [ih'.2]⟩

/-- Peek, PeekN and Empty never modify the queue. -/
theorem C17_peek_pure (s : QS) (op : Op) (h : isPeek op = true) : (stepS s op).1 = s := by
  cases op <;> simp_all [isPeek, stepS, step]

/-- the id `Push` hands out is above every id in the queue: the last entry carries the largest -/
private theorem lt_nextId (s : QS) (h : Inc s.q) (e : Entry) (he : e ∈ s.q) : e.id < nextIdS s := by
  unfold nextIdS
  cases hl : s.q.getLast? with
  | none => rw [List.getLast?_eq_none_iff.mp hl] at he; cases he
  | some l =>
    obtain ⟨ys, hys⟩ := List.getLast?_eq_some_iff.mp hl
    rw [Inc, hys, List.map_append, List.pairwise_append] at h
    rw [hys, List.mem_append, List.mem_singleton] at he
    rcases he with he | rfl
    · exact Nat.lt_succ_of_lt (h.2.2 _ (List.mem_map_of_mem he) _ (List.mem_singleton.mpr rfl))
    · exact Nat.lt_succ_self _

private theorem inc_push (s : QS) (x : String) (h : Inc s.q) : Inc (pushS s x).q := by
  rw [Inc, pushS, List.map_append, List.pairwise_append]
  refine ⟨h, List.pairwise_singleton _ _, ?_⟩
  intro a ha b hb
  obtain ⟨e, he, rfl⟩ := List.mem_map.mp ha
  rw [List.mem_singleton.mp hb]
  exact lt_nextId s h e he

/-- Inductive step: every operation preserves strictly increasing sequence numbers. -/
theorem C17_ids_step (s : QS) (op : Op) (h : Inc s.q) : Inc (stepS s op).1.q := by
  cases op with
  | push x => exact inc_push s x h
  | pop =>
    simp only [stepS, step, pop_eq, Inc, List.map_drop]
    exact List.Pairwise.drop h
  | popn k =>
    simp only [stepS, step, popN, Inc, List.map_drop]
    exact List.Pairwise.drop h
  | _ => exact h

/-- **Every reachable state** (any operation sequence from a fresh queue, or from any state that
already satisfies it) carries strictly increasing sequence numbers in insertion order. -/
theorem C17_ids_increasing (ops : List Op) : ∀ s : QS, Inc s.q → Inc (runS s ops).1.q := by
  induction ops with
  | nil => intro s h; simpa [runS] using h
  | cons op ops ih => intro s h; simpa [runS] using ih _ (C17_ids_step s op h)

theorem C17_ids_increasing_fresh (ops : List Op) : Inc (runS ⟨[], 0⟩ ops).1.q :=
  C17_ids_increasing ops ⟨[], 0⟩ (by simp [Inc])

private theorem idsIncreasing_iff (l : List Nat) : idsIncreasing l = true ↔ List.Pairwise (· < ·) l := by
  induction l with
  | nil => simp [idsIncreasing]
  | cons a t ih =>
    cases t with
    | nil => simp [idsIncreasing]
    | cons b r =>
      -- both sides end in "`b :: r` is increasing"; given that, `a < b` gives `a` below all of `b :: r` by transitivity
      rw [List.pairwise_cons, ← ih]
      simp only [idsIncreasing, Bool.and_eq_true, decide_eq_true_eq]
      refine and_congr_left fun hp => ⟨?_, fun hall => hall b List.mem_cons_self⟩
      intro hab x hx
      rcases List.mem_cons.mp hx with rfl | hx
      · exact hab
      · exact Nat.lt_trans hab ((List.pairwise_cons.mp (ih.mp hp)).1 x hx)

/-- The run-time oracle accepts exactly the model's own behaviour on every reachable state: the
oracle used to judge the implementation is implied by the theorems above (it is not stricter). -/
theorem C17_oracle_accepts_model (s : QS) (op : Op) (h : Inc s.q) :
    (holdsStep ⟨abs s.q, s.q⟩ op ⟨(stepS s op).2, (stepS s op).1.q⟩).1 = true := by
  have hr := C17_step_refines s op
  have hi := (idsIncreasing_iff _).mpr (C17_ids_step s op h)
  simp only [holdsStep, Bool.and_eq_true, decide_eq_true_eq, Bool.or_eq_true, Bool.not_eq_true']
  refine ⟨⟨⟨hr.2, hr.1⟩, hi⟩, ?_⟩
  cases hp : isPeek op with
  | false => simp
  | true => right; rw [C17_peek_pure s op hp]

/-- nil receiver: behaves as the empty reference FIFO and never changes. -/
theorem C17_nil_receiver (op : Op) : absOut (stepNil op) = (refStep [] op).2 := by
  cases op with
  | popn k | peekn k =>
    -- the reference distinguishes `k ≤ 0`; on the empty FIFO both branches return nothing
    simp only [stepNil, refStep, absOut]
    split <;> simp
  | _ => simp [stepNil, refStep, absOut]

-- Non-vacuity: a concrete non-trivial reachable state satisfies the hypotheses and exercises
-- in-range, out-of-range and negative counts.
example : Inc (runS ⟨[], 0⟩ [.push "a", .push "b", .push "c", .pop, .push "d"]).1.q := by decide
-- numbering continues after the queue was drained
example : (runS ⟨[], 0⟩ [.push "a", .pop, .push "b"]).1 = ⟨[⟨2, "b"⟩], 2⟩ := by decide
example : (runS ⟨[], 0⟩ [.push "a", .push "b", .push "c", .popn 2, .push "d", .peekn 5, .popn (-1)]).2
    = [.ents [], .ents [], .ents [], .ents [⟨1, "a"⟩, ⟨2, "b"⟩], .ents [],
       .ents [⟨3, "c"⟩, ⟨4, "d"⟩], .ents []] := by decide

end XmppVerif.Props.C17

#print axioms XmppVerif.Props.C17.C17_refines
#print axioms XmppVerif.Props.C17.C17_step_refines
#print axioms XmppVerif.Props.C17.C17_step_refines_slice
#print axioms XmppVerif.Props.C17.C17_peek_pure
#print axioms XmppVerif.Props.C17.C17_ids_step
#print axioms XmppVerif.Props.C17.C17_ids_increasing
#print axioms XmppVerif.Props.C17.C17_ids_increasing_fresh
#print axioms XmppVerif.Props.C17.C17_oracle_accepts_model
#print axioms XmppVerif.Props.C17.C17_nil_receiver
