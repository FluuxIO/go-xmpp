import XmppVerif.Model.Transport
import XmppVerif.Model.C18
import XmppVerif.Model.Recv
/-
Transport-level facts behind C05, C12 and C18: what closing a transport does to the reads, that WebSocket framing is
invisible, and how a dead connection found by the keepalive gets reported.
-/
namespace XmppVerif.Props.Transport
open XmppVerif.Model.Transport

/-- **Closing a transport makes the reads fail, whether or not the closing tag could be written** (so that a dead
connection found by the keepalive is noticed by the receive loop). -/
theorem close_fails_reads (writeOk : Bool) :
    readsFail (xmppClose writeOk) = true ∧ readsFail (wsClose writeOk) = true := by
  cases writeOk <;> decide

/-- **WebSocket framing is invisible to the parser**: however the server splits messages into frames, and however
it groups the bytes of the stream into messages, the decoder reads the same byte stream. -/
theorem ws_bytes_eq (msgs : List WsMessage) : wsBytes msgs = (msgs.map List.flatten).flatten :=
  List.flatten_filter_not_isEmpty

/-- two framings of the same bytes are read identically -/
theorem ws_framing_irrelevant (a b : List WsMessage)
    (h : (a.map List.flatten).flatten = (b.map List.flatten).flatten) : wsBytes a = wsBytes b := by
  rw [ws_bytes_eq, ws_bytes_eq, h]

open XmppVerif.Model in
/-- **A failed keepalive is reported**: the ticker fires, the k-th ping fails (k ≥ 1, the earlier ones succeed) -
the keepalive pings k times, closes the transport once and returns; closing makes the reads fail whatever happens
to the closing tag; and the receive loop, whose read fails, calls the error handler once, raises one Disconnected
event with the current stream-management state and closes the keepalive's quit channel. -/
theorem dead_connection_reported (k : Nat) (writeOk : Bool) (s : Recv.St) :
    (C18.run C18.init ((List.replicate k [C18.Ev.fire, C18.Ev.iter false true]).flatten ++
        [C18.Ev.fire, C18.Ev.iter true true])).2
      = List.replicate k C18.Act.ping ++ [C18.Act.ping, C18.Act.close, C18.Act.stop] ∧
    readsFail (xmppClose writeOk) = true ∧ readsFail (wsClose writeOk) = true ∧
    (Recv.clientRecv s [Recv.In.cut]).2 = [Recv.Act.quitClosed, Recv.Act.errh, Recv.Act.disconnected s.smId s.inbound] := by
  refine ⟨?_, (close_fails_reads writeOk).1, (close_fails_reads writeOk).2, rfl⟩
  -- one round (a tick, a successful ping) puts one ping in front and leaves the keepalive where it was
  have round : ∀ es, C18.run C18.init (C18.Ev.fire :: C18.Ev.iter false true :: es) =
      ((C18.run C18.init es).1, C18.Act.ping :: (C18.run C18.init es).2) := fun _ => rfl
  induction k with
  | zero => rfl
  | succ k ih =>
    simp only [List.replicate_succ, List.flatten_cons, List.cons_append, List.nil_append, round, ih]

example : wsBytes [[[1, 2], [3]], [[]], [[4]]] = [1, 2, 3, 4] := by decide

/-- **Nothing received before the loss is dropped (WebSocket, F-05e)**: whatever is in the transport's queue when
the transport is closed - every message the reader goroutine received completely - is delivered to the receive loop,
in order, BEFORE the read that reports the closed transport; and on an open transport the loop blocks after them. -/
theorem ws_read_delivers_before_error (q : List (List UInt8)) (closed : Bool) :
    wsDrain (q.length + 1) q closed = q.map ReadOut.data ++ [if closed then ReadOut.err else ReadOut.blocks] := by
  induction q with
  | nil => cases closed <;> simp [wsDrain, wsRead]
  | cons m rest ih => simp [wsDrain, wsRead, ih]

example : wsDrain 3 [[1], [2, 3]] true = [.data [1], .data [2, 3], .err] := by decide

end XmppVerif.Props.Transport

#print axioms XmppVerif.Props.Transport.close_fails_reads
#print axioms XmppVerif.Props.Transport.ws_bytes_eq
#print axioms XmppVerif.Props.Transport.ws_framing_irrelevant
#print axioms XmppVerif.Props.Transport.dead_connection_reported
#print axioms XmppVerif.Props.Transport.ws_read_delivers_before_error
