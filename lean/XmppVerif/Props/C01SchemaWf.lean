import XmppVerif.Model.C01SchemaTypes
/-
`Ty.wf` for the table of reachable struct types (`allTypes`), evaluated once; the named instances
(Props/C01SchemaTypes.lean) and the lists of names (Tie/C01Schema.lean) read it off by position or by name.
-/
namespace XmppVerif.Props.C01S
open XmppVerif.Model.C01S

def notWfNames : List String :=
  ["Command", "ControlField", "ControlSet", "HTMLBody", "HTML", "PubSubEvent", "FormItem", "PubSubOwner", "Note"]

theorem wf_iff_listed : ∀ p ∈ allTypes, Ty.wf p.2 = !notWfNames.contains p.1 :=
  List.map_inj_left.mp (by decide +kernel)

/-- `h` is closed by `rfl`: looking a position up compares no schema, where `Ty.wf` walks the type and every type below
it again -/
theorem wf_at {n : String} {t : Ty} (i : Nat) (h : allTypes[i]? = some (n, t))
    (hn : notWfNames.contains n = false) : Ty.wf t = true := by
  rw [wf_iff_listed (n, t) (List.mem_of_getElem? h), hn]; rfl

end XmppVerif.Props.C01S
