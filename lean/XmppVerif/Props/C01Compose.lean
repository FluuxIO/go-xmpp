import XmppVerif.Proofs.C01Compose
/-
C01: a stanza TOGETHER with its registered extensions / payload. The hand-written loops are followed over the children
the envelope wrote for its own fields and over the one element the schema codec wrote for each extension, which the
registry lookup hands to DecodeElement on the registered type: the schema theorem (Proofs/C01Compose.lean).
  Message  with any list (any number, any order, repetitions) of extensions whose types are registered for messages
  Presence with any list of extensions registered for presences
  IQ       with at most one registered payload, an error and a generic payload (`Any`)
For every default namespace that is not itself a registered namespace: decode (marshal v) = v, the rest of the stream
untouched; hence a byte-identical second serialization. An extension is in the class (`extOk`, decidable) when its Go
type has a well-formed schema with a tagged, namespaced XMLName, the registry maps that name to this very type (so not
Roster: F-01n), and the value fits the schema.
-/
namespace XmppVerif.Props.C01S
open XmppVerif.Model.C01
open XmppVerif.Model.C01S XmppVerif.Spec.C01 XmppVerif.Proofs.C01 XmppVerif.Proofs.C01S

theorem C01_roundtrip_MessageX (ctx : Str) (m : MessageX) (rest : List Tok) (hctx : ctxOkX ctx = true)
    (hw : m.wf = true) : unmarshalWith decMessageX (marshalX ctx encMessageX m ++ rest) = some (m, rest) :=
  unmarshalWith_toks _ _ m rest ⟨_, _, _, viewS_elem ctx _ _ _⟩ (msgx_rt ctx m hctx hw)

theorem C01_roundtrip_PresenceX (ctx : Str) (p : PresenceX) (rest : List Tok) (hctx : ctxOkX ctx = true)
    (hw : p.wf = true) : unmarshalWith decPresenceX (marshalX ctx encPresenceX p ++ rest) = some (p, rest) :=
  unmarshalWith_toks _ _ p rest ⟨_, _, _, viewS_elem ctx _ _ _⟩ (presx_rt ctx p hctx hw)

theorem C01_roundtrip_IQX (ctx : Str) (q : IQX) (rest : List Tok) (hw : q.wf ctx = true) :
    unmarshalWith decIQX (marshalX ctx encIQX q ++ rest) = some (q, rest) :=
  unmarshalWith_toks _ _ q rest ⟨_, _, _, viewS_elem ctx _ _ _⟩ (iqx_rt ctx q hw)

/-- the second serialization of each is byte-identical -/
theorem C01_reserialise_X (ctx : Str) (m : MessageX) (p : PresenceX) (q : IQX) (hctx : ctxOkX ctx = true)
    (hm : m.wf = true) (hp : p.wf = true) (hq : q.wf ctx = true) :
    (unmarshalWith decMessageX (marshalX ctx encMessageX m)).map (fun r => render (encMessageX r.1)) =
        some (render (encMessageX m)) ∧
    (unmarshalWith decPresenceX (marshalX ctx encPresenceX p)).map (fun r => render (encPresenceX r.1)) =
        some (render (encPresenceX p)) ∧
    (unmarshalWith decIQX (marshalX ctx encIQX q)).map (fun r => render (encIQX r.1)) = some (render (encIQX q)) :=
  ⟨reserialise (fun x => render (encMessageX x)) (C01_roundtrip_MessageX ctx m [] hctx hm),
    reserialise (fun x => render (encPresenceX x)) (C01_roundtrip_PresenceX ctx p [] hctx hp),
    reserialise (fun x => render (encIQX x)) (C01_roundtrip_IQX ctx q [] hq)⟩

/-- where no extension writes `xmlns=""` the decoder's view is the `view` of the envelope theorems -/
theorem C01_viewS_eq_view (ctx : Str) (e : El) (h : noDecl e = true) : viewS ctx e = view ctx e :=
  viewS_eq_view ctx e h

-- non-vacuity: the usual stream namespaces; a message with three extensions (one twice); an IQ with a disco#info payload
example : ctxOkX "jabber:client".toList = true ∧ ctxOkX [] = true ∧ ctxOkX "jabber:component:accept".toList = true := by
  repeat rw [String.toList_ofList]
  decide +kernel
example : (MessageX.mk ⟨⟨"chat".toList, "1".toList, [], [], []⟩, [], "a<b>&\"'\r\n]]>".toList, [], Err.zero⟩
    [⟨"StateActive", .struct noName [.nil]⟩,
     ⟨"OOB", .struct noName [.nil, .str "http://x/?a=1&b=<2>".toList, .str []]⟩,
     ⟨"ReceiptReceived", .struct noName [.nil, .str "id\"1".toList]⟩,
     ⟨"StateActive", .struct noName [.nil]⟩]).wf = true := by
  repeat rw [String.toList_ofList]
  decide +kernel
example : (IQX.mk ⟨"result".toList, "7".toList, [], [], []⟩
    (some ⟨"DiscoInfo", .struct noName [.str "n".toList, .slice [.struct noName [.str "a".toList, .str [], .str "c".toList]],
      .slice [.struct noName [.str "urn:x".toList]], .nil]⟩) none none).wf "jabber:client".toList = true := by
  repeat rw [String.toList_ofList]
  decide +kernel
example : (PresenceX.mk ⟨⟨[], [], "room@muc/nick".toList, [], []⟩, [], [], 0, Err.zero⟩
    [⟨"MucPresence", .struct noName [.nil, .str "s3cr<t".toList, .history (some 0) none (some 3600)]⟩]).wf = true := by
  repeat rw [String.toList_ofList]
  decide +kernel
-- Roster is registered under a name that the registry maps to RosterItems (F-01n): outside the class
example : extOk "PKTIQ" ⟨"Roster", .struct noName [.nil]⟩ = false := by decide +kernel

end XmppVerif.Props.C01S

#print axioms XmppVerif.Props.C01S.C01_roundtrip_MessageX
#print axioms XmppVerif.Props.C01S.C01_roundtrip_PresenceX
#print axioms XmppVerif.Props.C01S.C01_roundtrip_IQX
#print axioms XmppVerif.Props.C01S.C01_reserialise_X
#print axioms XmppVerif.Props.C01S.C01_viewS_eq_view
