import XmppVerif.Proofs.C01Command
/-
C01: stanza.Command (XEP-0050) - hand-written UnmarshalXML (attribute loop, name dispatch with a Node default arm)
modelled by hand over the schema codec and the Node codec. Class (`CommandV.wf`, decidable): attribute strings legal;
no error flag and no ResultSet (they are read back as Nodes: F-01m); elements that are Actions or Form values with a
fitting value (Note.Text is `,cdata`: F-01f) or Nodes of the exact class under the commands namespace whose root is not
named actions / note / x.
-/
namespace XmppVerif.Props.C01S
open XmppVerif.Model.C01
open XmppVerif.Model.C01S XmppVerif.Spec.C01 XmppVerif.Proofs.C01 XmppVerif.Proofs.C01S

theorem C01_roundtrip_Command (ctx : Str) (v : CommandV) (rest : List Tok) (hv : v.wf = true) :
    unmarshalWith decCommand (marshalX ctx encCommand v ++ rest) = some (v, rest) :=
  unmarshalWith_toks _ _ v rest ⟨_, _, _, viewS_elem ctx _ _ _⟩ (command_rt ctx v hv)

theorem C01_reserialise_Command (ctx : Str) (v : CommandV) (hv : v.wf = true) :
    (unmarshalWith decCommand (marshalX ctx encCommand v)).map (fun r => render (encCommand r.1)) =
      some (render (encCommand v)) :=
  reserialise (fun x => render (encCommand x)) (C01_roundtrip_Command ctx v [] hv)

-- non-vacuity: an executing command with its actions and a generic payload; the recorded regions are outside
example : (CommandV.mk ⟨"execute".toList, "list<1>".toList, "s&1".toList, [], "en".toList⟩
    [.ext ⟨"Actions", .struct noName [.nil, .ref (.struct noName []), .nil, .str "next".toList]⟩,
     .node (.mk ⟨"urn:x".toList, "payload".toList⟩ [] "a<b".toList [])]
    [false, false, false, false, false, false] .nil).wf = true := by
  repeat rw [String.toList_ofList]
  decide +kernel
example : (CommandV.mk ⟨[], "n".toList, [], [], []⟩ [] [true, false, false, false, false, false] .nil).wf = false := by
  repeat rw [String.toList_ofList]
  decide +kernel

end XmppVerif.Props.C01S

#print axioms XmppVerif.Props.C01S.C01_roundtrip_Command
#print axioms XmppVerif.Props.C01S.C01_reserialise_Command
