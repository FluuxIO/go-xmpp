import XmppVerif.Props.Recv
import XmppVerif.Props.C05
import XmppVerif.Spec.RecvObs
/-
C12 - a lost connection is reported exactly once at every cut point (token level: a cut is a decoder error at any
position of the packet sequence; `Props/C12Bytes.lean` maps a cut at any byte offset of a rendered stream to one of
these).
-/
namespace XmppVerif.Props.C12
open XmppVerif.Model.Recv XmppVerif.Spec.Recv XmppVerif.Spec.RecvObs XmppVerif.Props.Recv

/-- **Exactly once**: whatever precedes the end of the stream (loss or graceful close), the run raises
exactly one Disconnected event, and it carries the current stream-management state (id and stanza count). -/
theorem C12_one_disconnected_event (s : St) (ins : List In) :
    discEvents (clientRecv s ins).2 = [(s.smId, s.inbound + stanzaCount (processed ins))] :=
  (client_facts ins s).disc

/-- exactly one error callback for the loss (plus one per stream error received before it) -/
theorem C12_one_error_callback (s : St) (ins : List In) (h : isClose (stopper ins) = false) :
    errhCount (clientRecv s ins).2 = serrCount (processed ins) + 1 := by
  rw [(client_facts ins s).errh, h]
  rfl

/-- the receive loop always closes the keepalive quit channel, exactly once (so the keepalive stops, C18) - and BEFORE
the loss is reported: no Disconnected event precedes it (the handler of that event reconnects at once under a
StreamManager; the keepalive of the lost session must be told to stop by then - F-18b) -/
theorem C12_quit_closed_before_report (s : St) (ins : List In) :
    ((clientRecv s ins).2.filter (· == .quitClosed)).length = 1 ∧
    discEvents ((clientRecv s ins).2.takeWhile (· != .quitClosed)) = [] :=
  (client_facts ins s).quit

/-- **Every cut position**: cutting after any prefix `pre` of a history (whatever follows) reports once and routes
every stanza of `pre`, provided `pre` itself contains nothing that stops the loop. -/
theorem C12_every_cut_position (s : St) (pre post : List In) (h : ∀ i ∈ pre, stops i = false) :
    discEvents (clientRecv s (pre ++ .cut :: post)).2 = [(s.smId, s.inbound + stanzaCount pre)] ∧
    errhCount (clientRecv s (pre ++ .cut :: post)).2 = serrCount pre + 1 ∧
    routedStanzas (clientRecv s (pre ++ .cut :: post)).2 = pre.filterMap stanzaOf := by
  obtain ⟨hp, hs⟩ := processed_stopper_append_stop pre post .cut h rfl
  have hc : isClose (stopper (pre ++ .cut :: post)) = false := by rw [hs]; rfl
  refine ⟨?_, ?_, ?_⟩
  · rw [C12_one_disconnected_event, hp]
  · rw [C12_one_error_callback _ _ hc, hp]
  · exact XmppVerif.Props.C05.C05_nothing_before_loss_dropped s pre post h

/-- the same when the input simply ends (EOF): reported like a cut -/
theorem C12_eof (s : St) (pre : List In) (h : ∀ i ∈ pre, stops i = false) :
    discEvents (clientRecv s pre).2 = [(s.smId, s.inbound + stanzaCount pre)] := by
  have hp := processed_of_no_stop pre h
  rw [C12_one_disconnected_event, hp]

/-- a failed write of an `<a/>` answer is a detected loss too: one event, one callback (F-12) -/
theorem C12_failed_answer_reported (s : St) (rest : List In) :
    discEvents (clientRecv s (.pkt .r true :: rest)).2 = [(s.smId, s.inbound)] ∧
    errhCount (clientRecv s (.pkt .r true :: rest)).2 = 1 := by
  have hstop : isClose (stopper (.pkt .r true :: rest)) = false := by rw [stopper_cons]; rfl
  constructor
  · rw [C12_one_disconnected_event, processed_cons]
    rfl
  · rw [C12_one_error_callback _ _ hstop, processed_cons]
    rfl

theorem C12_oracle_accepts_model (c : Case) (hc : c.client = true) : holdsC12 c (modelSummary c) = true := by
  unfold holdsC12
  rw [XmppVerif.Props.C05.routed_accepted, Bool.true_and]
  unfold modelSummary
  have f := client_facts c.ins ⟨c.smId, c.n0⟩
  simp only [hc, if_true, summarise, Bool.not_false, Bool.and_true, Bool.and_eq_true, Bool.or_eq_true,
    decide_eq_true_eq]
  refine ⟨?_, ?_⟩
  · -- closed exactly once, so closed: the one element the filter keeps is a witness
    obtain ⟨a, hmem, hquit⟩ := List.length_filter_pos_iff.mp (Nat.lt_of_lt_of_eq Nat.one_pos f.quit.1.symm)
    rw [eq_of_beq hquit] at hmem
    exact List.any_eq_true.mpr ⟨.quitClosed, hmem, rfl⟩
  · cases hcl : isClose (stopper c.ins) with
    | true => exact Or.inl rfl
    | false => exact Or.inr ⟨f.disc, by rw [f.errh, hcl]; rfl⟩

example : discEvents (clientRecv ⟨"sm", 2⟩ [.pkt (.msg "1") false, .pkt .r false, .cut]).2 = [("sm", 3)] := by decide

end XmppVerif.Props.C12

#print axioms XmppVerif.Props.C12.C12_one_disconnected_event
#print axioms XmppVerif.Props.C12.C12_one_error_callback
#print axioms XmppVerif.Props.C12.C12_quit_closed_before_report
#print axioms XmppVerif.Props.C12.C12_every_cut_position
#print axioms XmppVerif.Props.C12.C12_eof
#print axioms XmppVerif.Props.C12.C12_failed_answer_reported
#print axioms XmppVerif.Props.C12.C12_oracle_accepts_model
