import XmppVerif.Spec.C20
import XmppVerif.Props.Cut
/-
C20 - address normalisation yields a dialable host:port and picks the right transport.
-/
namespace XmppVerif.Props.C20
open XmppVerif.Model.C20 XmppVerif.Spec.C20

private theorem lastIndex_absent (c : Char) (s : List Char) (h : c ∉ s) : lastIndex c s = -1 := by
  induction s with
  | nil => rfl
  | cons x xs ih =>
    rw [List.mem_cons, not_or] at h
    simp [lastIndex, ih h.2, Ne.symm h.1]

private theorem lastIndex_lt (c : Char) (s : List Char) : lastIndex c s < s.length := by
  induction s with
  | nil => simp [lastIndex]
  | cons x xs ih =>
    simp only [lastIndex, List.length_cons]
    split
    · omega
    · split <;> omega

private theorem lastIndex_split (c : Char) (t : List Char) (ht : c ∉ t) (s : List Char) :
    lastIndex c (s ++ c :: t) = s.length := by
  induction s with
  | nil => simp [lastIndex, lastIndex_absent c t ht]
  | cons x xs ih =>
    have : (0 : Int) ≤ (xs.length : Int) := by omega
    simp [lastIndex, ih, this]

private theorem splitLast_none (c : Char) (s : List Char) (h : c ∉ s) : splitLast c s = none := by
  induction s with
  | nil => rfl
  | cons x xs ih =>
    rw [List.mem_cons, not_or] at h
    simp [splitLast, ih h.2, Ne.symm h.1]

private theorem splitLast_spec (c : Char) (b : List Char) (hb : c ∉ b) (a : List Char) :
    splitLast c (a ++ c :: b) = some (a, b) := by
  induction a with
  | nil => simp [splitLast, splitLast_none c b hb]
  | cons x xs ih => simp [splitLast, ih]

private theorem head_ne_of_not_mem {c : Char} {s t : List Char} (h : c ∉ s) (ht : t.head? ≠ some c) :
    (s ++ t).head? ≠ some c := by
  cases s with
  | nil => simpa using ht
  | cons x xs =>
    simp only [List.cons_append, List.head?_cons, ne_eq, Option.some.injEq]
    intro e; exact h (by simp [e])

private theorem noneOf_not_mem {bad s : List Char} {c : Char} (h : noneOf bad s = true) (hc : c ∈ bad := by simp) :
    c ∉ s := by
  intro hm
  have := List.all_eq_true.mp h c hm
  simp [hc] at this

private theorem digits_not_mem {p : List Char} {c : Char} (h : isDigits p = true) (hc : c.isDigit = false := by decide) :
    c ∉ p := by
  intro hm
  unfold isDigits at h
  simp only [Bool.and_eq_true] at h
  have := List.all_eq_true.mp h.2 c hm
  simp [hc] at this

private theorem contains_false {c : Char} {s : List Char} (h : c ∉ s) : s.contains c = false := by
  simp [h]

private theorem contains_true_of_count {s : List Char} (h : 2 ≤ s.count ':') : s.contains ':' = true := by
  have : ':' ∈ s := List.count_pos_iff.mp (by omega)
  simp [this]

private theorem wf_facts (f : Form) (h : f.wf = true) :
    (∀ p, f.port = some p → isDigits p = true) ∧ '[' ∉ f.host ∧ ']' ∉ f.host ∧
    (match f.kind with
     | .plain => ':' ∉ f.host ∧ '%' ∉ f.host
     | .v6bare => 2 ≤ f.host.count ':' ∧ f.port = none
     | .v6br => 2 ≤ f.host.count ':') := by
  obtain ⟨kind, host, port⟩ := f
  simp only [Form.wf, Bool.and_eq_true] at h
  obtain ⟨hport, hkind⟩ := h
  refine ⟨fun p hp => ?_, ?_⟩
  · subst hp; exact hport
  · cases kind <;> simp only [Bool.and_eq_true, decide_eq_true_eq, Option.isNone_iff_eq_none] at hkind
    · exact ⟨noneOf_not_mem hkind, noneOf_not_mem hkind, noneOf_not_mem hkind, noneOf_not_mem hkind⟩
    · obtain ⟨⟨hcount, hbrackets⟩, hnoport⟩ := hkind
      exact ⟨noneOf_not_mem hbrackets, noneOf_not_mem hbrackets, hcount, hnoport⟩
    · obtain ⟨hcount, hbrackets⟩ := hkind
      exact ⟨noneOf_not_mem hbrackets, noneOf_not_mem hbrackets, hcount⟩

private theorem ensurePort_no_colon (addr : List Char) (q : Nat) (hhead : addr.head? ≠ some '[')
    (hcount : addr.count ':' = 0) : ensurePort addr q = addr ++ ':' :: itoa q := by
  unfold ensurePort; rw [if_neg hhead, hcount]; rfl
private theorem ensurePort_one_colon (addr : List Char) (q : Nat) (hhead : addr.head? ≠ some '[')
    (hcount : addr.count ':' = 1) : ensurePort addr q = addr := by
  unfold ensurePort; rw [if_neg hhead, hcount]; rfl
private theorem ensurePort_more_colons (addr : List Char) (q k : Nat) (hhead : addr.head? ≠ some '[')
    (hcount : addr.count ':' = k + 2) : ensurePort addr q = '[' :: addr ++ ']' :: ':' :: itoa q := by
  unfold ensurePort; rw [if_neg hhead, hcount]; rfl
private theorem ensurePort_bracket_no_port (addr : List Char) (q : Nat) (hhead : addr.head? = some '[')
    (hlast : lastIndex ':' addr ≤ lastIndex ']' addr) : ensurePort addr q = addr ++ ':' :: itoa q := by
  unfold ensurePort; rw [if_pos hhead, if_pos hlast]
private theorem ensurePort_bracket_port (addr : List Char) (q : Nat) (hhead : addr.head? = some '[')
    (hlast : ¬ lastIndex ':' addr ≤ lastIndex ']' addr) : ensurePort addr q = addr := by
  unfold ensurePort; rw [if_pos hhead, if_neg hlast]

private theorem join_plain (host p : List Char) (hcolon : ':' ∉ host) (hpercent : '%' ∉ host) :
    joinHostPort host p = host ++ ':' :: p := by
  unfold joinHostPort; simp [hcolon, hpercent]
private theorem join_v6 (host p : List Char) (hcount : 2 ≤ host.count ':') :
    joinHostPort host p = '[' :: host ++ ']' :: ':' :: p := by
  rw [joinHostPort, contains_true_of_count hcount, Bool.true_or, if_pos rfl]

private theorem lastColon_behind_bracket (host p : List Char) (hcolon : ':' ∉ p) (hbracket : ']' ∉ p) :
    ¬ lastIndex ':' (('[' :: host ++ [']']) ++ ':' :: p) ≤ lastIndex ']' (('[' :: host ++ [']']) ++ ':' :: p) := by
  have hassoc : ('[' :: host ++ [']']) ++ ':' :: p = ('[' :: host) ++ ']' :: (':' :: p) := by simp
  rw [lastIndex_split ':' p hcolon, hassoc, lastIndex_split ']' (':' :: p) (by simp [hbracket])]
  simp only [List.length_append, List.length_cons, List.length_nil]; omega

private theorem lastColon_before_bracket (host : List Char) :
    lastIndex ':' ('[' :: host ++ [']']) ≤ lastIndex ']' ('[' :: host ++ [']']) := by
  have hl := lastIndex_lt ':' ('[' :: host ++ [']'])
  rw [lastIndex_split ']' [] (by simp) ('[' :: host)]
  simp only [List.length_append, List.length_cons, List.length_nil] at hl ⊢; omega

private theorem render_with_port (f : Form) (h : f.wf = true) (p : List Char) (hp : f.port = some p) :
    f.render = joinHostPort f.host p := by
  obtain ⟨_, _, _, hkind⟩ := wf_facts f h
  obtain ⟨kind, host, port⟩ := f
  subst hp
  cases kind with
  | plain => exact (join_plain host p hkind.1 hkind.2).symm
  | v6bare => cases hkind.2    -- a bare IPv6 literal carries no port
  | v6br => simp [Form.render, join_v6 host p hkind]

/-- for every port number `q`, not only 5222: the port is appended exactly when none was written -/
theorem ensurePort_render (f : Form) (h : f.wf = true) (q : Nat) :
    ensurePort f.render q = joinHostPort f.host (f.port.getD (itoa q)) := by
  obtain ⟨hport, hopen, _, hkind⟩ := wf_facts f h
  obtain ⟨kind, host, port⟩ := f
  cases port with
  | some p =>
    -- with a port the address is kept as it is written
    have hpcolon : ':' ∉ p := digits_not_mem (hport p rfl)
    have hpbracket : ']' ∉ p := digits_not_mem (hport p rfl)
    rw [Option.getD_some, ← render_with_port _ h p rfl]
    cases kind with
    | plain =>
      have hcount : (host ++ ':' :: p).count ':' = 1 := by
        simp [List.count_append, List.count_eq_zero.mpr hkind.1, List.count_eq_zero.mpr hpcolon]
      exact ensurePort_one_colon _ _ (head_ne_of_not_mem hopen (by simp)) hcount
    | v6bare => cases hkind.2
    | v6br =>
      exact ensurePort_bracket_port _ _ (by simp [Form.render]) (lastColon_behind_bracket host p hpcolon hpbracket)
  | none =>
    have hhead : host.head? ≠ some '[' := fun e => hopen (List.mem_of_mem_head? e)
    cases kind with
    | plain =>
      exact (ensurePort_no_colon host q hhead (List.count_eq_zero.mpr hkind.1)).trans
        (join_plain host _ hkind.1 hkind.2).symm
    | v6bare =>
      have hcount : host.count ':' = (host.count ':' - 2) + 2 := by have : 2 ≤ host.count ':' := hkind.1; omega
      exact (ensurePort_more_colons host q _ hhead hcount).trans (join_v6 host _ hkind.1).symm
    | v6br =>
      show ensurePort ('[' :: host ++ [']']) q = joinHostPort host (itoa q)
      rw [ensurePort_bracket_no_port _ _ (by simp) (lastColon_before_bracket host), join_v6 host _ hkind]
      simp

/-- **Dial address**: for every well-formed address form (DNS / IPv4 / bare or bracketed IPv6, with or without a
port text) the normalised address is exactly `JoinHostPort(host, port)`, with 5222 only when no port was written. -/
theorem C20_dial (f : Form) (h : f.wf = true) : ensurePort f.render defaultPort = f.expected :=
  ensurePort_render f h defaultPort

/-- The default port is added only when none was written: with a port text the result is the input (for plain
hosts and bracketed IPv6), i.e. host and explicit port are kept verbatim, whatever the default would be. -/
theorem C20_explicit_port_kept (f : Form) (h : f.wf = true) (p : List Char) (hp : f.port = some p)
    (q : Nat) : ensurePort f.render q = f.render := by
  rw [ensurePort_render f h q, hp, Option.getD_some, render_with_port f h p hp]

/-- Transport choice: a client gets the WebSocket transport exactly for ws:/wss: addresses, a component is refused
exactly for those, and in every other case the XMPP transport dials the normalised address. -/
theorem C20_transport (addr : List Char) :
    (clientTransport addr = .ws ↔ isWs addr = true) ∧
    (componentTransport addr = .refused ↔ isWs addr = true) ∧
    (isWs addr = false → clientTransport addr = .xmpp (ensurePort addr 5222) ∧
                         componentTransport addr = .xmpp (ensurePort addr 5222)) := by
  unfold clientTransport componentTransport defaultPort
  cases h : isWs addr <;> simp

/-- Through the constructor: every well-formed form that does not render with a ws:/wss: prefix is dialled at
`JoinHostPort(host, port)`. -/
theorem C20_constructor (f : Form) (h : f.wf = true) (hw : isWs f.render = false) :
    clientTransport f.render = .xmpp f.expected ∧ componentTransport f.render = .xmpp f.expected := by
  rw [← C20_dial f h]
  exact (C20_transport f.render).2.2 hw

/-- Recorded finding F-20a (known_findings.json): a host named `ws` with a port is a well-formed form, yet it
selects the WebSocket transport instead of being dialled at ws:5222. -/
theorem C20_witness_ws_host :
    (Form.mk .plain "ws".toList (some "5222".toList)).wf = true ∧
    clientTransport (Form.mk .plain "ws".toList (some "5222".toList)).render = .ws ∧
    knownWsHost (Form.mk .plain "ws".toList (some "5222".toList)) = true := by
  -- the kernel decodes a string literal through its UTF-8 bytes, quadratically; this hands it the character list
  repeat rw [String.toList_ofList]
  decide +kernel

/-- Outside that region (and for plain hosts not starting like the scheme) no well-formed form is mistaken:
a well-formed form renders with a ws:/wss: prefix only if its host is `ws`/`wss` followed by a port, or starts with
`ws:` itself (impossible for plain hosts, which contain no colon). -/
theorem C20_ws_only_known (f : Form) (h : f.wf = true) (hk : f.kind = .plain) (hw : isWs f.render = true) :
    knownWsHost f = true := by
  obtain ⟨_, _, _, hkind⟩ := wf_facts f h
  obtain ⟨kind, host, port⟩ := f
  subst hk
  have hcolon : ':' ∉ host := hkind.1
  simp only [isWs, Bool.or_eq_true, List.isPrefixOf_iff_prefix, Form.render] at hw
  cases port with
  | none =>
    -- without a port the host itself would hold the colon of the prefix
    rcases hw with ⟨t, ht⟩ | ⟨t, ht⟩ <;> exact absurd (by simp [← ht]) hcolon
  | some p =>
    -- `ws:` is `ws`, then a first colon: the colon-free host in front of the port's colon is `ws`
    rcases hw with ⟨t, ht⟩ | ⟨t, ht⟩
    · simp [knownWsHost, (Cut.split_at_sep (l₂ := ['w', 's']) hcolon (by simp) ht.symm).1]
    · simp [knownWsHost, (Cut.split_at_sep (l₂ := ['w', 's', 's']) hcolon (by simp) ht.symm).1]

/-- **`net.SplitHostPort` inverts `net.JoinHostPort`** on every host without brackets and every port without
`:`, `[`, `]` - whichever branch (bracketed or not) the join took. -/
theorem split_join (host port : List Char) (h1 : '[' ∉ host) (h2 : ']' ∉ host)
    (p1 : ':' ∉ port) (p2 : '[' ∉ port) (p3 : ']' ∉ port) :
    splitHostPort (joinHostPort host port) = some (host, port) := by
  unfold joinHostPort
  split
  · -- bracketed
    have e : ('[' :: host ++ ']' :: ':' :: port) = ('[' :: host ++ [']']) ++ ':' :: port := by simp
    unfold splitHostPort
    rw [e, splitLast_spec ':' port p1]
    simp only [List.cons_append, List.head?_cons, if_true, List.tail_cons]
    have := Cut.cut_at_first ']' host (':' :: port) h2
    simp only [List.append_assoc, List.cons_append, List.nil_append] at this ⊢
    rw [this.1, this.2]
    simp [h1, p1, p2, p3]
  · -- plain
    rename_i hc
    have hcolon : ':' ∉ host := fun m => hc (by simp [m])
    unfold splitHostPort
    have hhead : (host ++ ':' :: port).head? ≠ some '[' := head_ne_of_not_mem h1 (by simp)
    rw [splitLast_spec ':' port p1]
    simp only [hhead, if_false]
    simp [hcolon, h1, h2, p2, p3]

/-- **The normalised address is dialable and keeps host and port**: for every well-formed address form, what
`ensurePort` produces splits (by `net.SplitHostPort`, as the dialer will) into exactly the given host and the given
port - or 5222 when none was given. -/
theorem C20_dialable (f : Form) (h : f.wf = true) :
    splitHostPort (ensurePort f.render defaultPort) = some (f.host, f.port.getD (itoa defaultPort)) := by
  obtain ⟨hport, hopen, hclose, _⟩ := wf_facts f h
  -- the port is a digit string (given) or "5222"
  have pd : ∀ c : Char, c.isDigit = false → c ∉ f.port.getD (itoa defaultPort) := by
    intro c hc
    cases hp : f.port with
    | none => exact digits_not_mem (p := itoa defaultPort) (by decide) hc
    | some p => exact digits_not_mem (hport p hp) hc
  rw [C20_dial f h]
  exact split_join f.host _ hopen hclose (pd ':' (by decide)) (pd '[' (by decide)) (pd ']' (by decide))

example : (Form.mk .plain "example.org".toList none).wf = true := by
  repeat rw [String.toList_ofList]
  decide +kernel
example : (Form.mk .v6br "::ffff:1.2.3.4".toList (some "5269".toList)).wf = true := by
  repeat rw [String.toList_ofList]
  decide +kernel
example : ensurePort "fe80::1%eth0".toList 5222 = "[fe80::1%eth0]:5222".toList := by
  repeat rw [String.toList_ofList]
  decide +kernel
example : ensurePort "[::1]".toList 5222 = "[::1]:5222".toList := by
  repeat rw [String.toList_ofList]
  decide +kernel
example : ensurePort "[::1]:80".toList 5222 = "[::1]:80".toList := by
  repeat rw [String.toList_ofList]
  decide +kernel
example : ensurePort "host".toList 5222 = "host:5222".toList := by
  repeat rw [String.toList_ofList]
  decide +kernel

example : splitHostPort "[::1]:5222".toList = some ("::1".toList, "5222".toList) := by
  repeat rw [String.toList_ofList]
  decide +kernel
example : splitHostPort "a:b:1".toList = none ∧ splitHostPort "[::1]".toList = none ∧ splitHostPort "host".toList = none := by
  repeat rw [String.toList_ofList]
  decide +kernel

end XmppVerif.Props.C20

#print axioms XmppVerif.Props.C20.C20_dial
#print axioms XmppVerif.Props.C20.C20_explicit_port_kept
#print axioms XmppVerif.Props.C20.C20_transport
#print axioms XmppVerif.Props.C20.C20_constructor
#print axioms XmppVerif.Props.C20.C20_witness_ws_host
#print axioms XmppVerif.Props.C20.C20_ws_only_known
#print axioms XmppVerif.Props.C20.split_join
#print axioms XmppVerif.Props.C20.C20_dialable
