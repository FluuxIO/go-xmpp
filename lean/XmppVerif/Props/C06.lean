import XmppVerif.Spec.C06
/-
C06 - the router runs only the first matching route; unhandled IQ requests get one error.
-/
namespace XmppVerif.Props.C06
open XmppVerif.Model.C06 XmppVerif.Spec.C06

/-- Each matcher behaves as documented: packet name; stanza type with `normal` as the default message type;
IQ payload namespace (false without payload or for non-IQ packets). -/
theorem C06_matcher_spec (m : Matcher) (p : Pkt) : m.accepts p = true ↔ MatcherSpec m p := by
  cases m with
  | name n =>
    unfold Matcher.accepts MatcherSpec
    cases hk : p.kind <;> simp [pktName] <;> exact eq_comm
  | stype ts =>
    unfold Matcher.accepts MatcherSpec
    cases hk : p.kind <;> simp [matchInArray]
    by_cases ht : p.type = "" <;> simp [ht]
  | iqns ns =>
    unfold Matcher.accepts MatcherSpec
    cases hk : p.kind <;> cases hp : p.payloadNs <;> simp [matchInArray]

theorem C06_route_spec (r : Route) (p : Pkt) : r.accepts p = true ↔ RouteSpec r p := by
  unfold Route.accepts RouteSpec
  simp only [List.all_eq_true, C06_matcher_spec]

/-- A route without matchers accepts every packet, stanza or not. -/
theorem C06_catch_all (p : Pkt) : Route.accepts [] p = true := rfl

/-- **First match**: the dispatched index is exactly the first route that accepts. -/
theorem C06_first_match (routes : List Route) (p : Pkt) (i : Nat) :
    dispatch routes p = some i ↔
      ∃ h : i < routes.length, routes[i].accepts p = true ∧ ∀ j (hj : j < i), ¬ routes[j].accepts p = true := by
  unfold dispatch; exact List.findIdx?_eq_some_iff_getElem

theorem C06_no_match (routes : List Route) (p : Pkt) :
    dispatch routes p = none ↔ ∀ r ∈ routes, r.accepts p = false := by
  unfold dispatch; exact List.findIdx?_eq_none_iff

/-- **Exactly one handler**: the handler log of `route` is `[i]` for the dispatched route, or empty; never two. -/
theorem C06_exactly_one_handler (routes : List Route) (p : Pkt) :
    (route routes p).handled = (dispatch routes p).toList := by
  unfold route
  cases dispatch routes p with
  | none =>
    -- the test `route` makes without a match is `isRequest p`, written out; neither branch runs a handler
    show (if isRequest p then _ else _ : Out).handled = _
    cases isRequest p <;> rfl
  | some i => rfl

/-- **Reply iff**: one feature-not-implemented error exactly for an IQ get/set that matches no route; otherwise
nothing is sent (in particular for unmatched messages, presences, IQ results/errors and non-stanza packets). -/
theorem C06_reply_iff (routes : List Route) (p : Pkt) :
    (route routes p).replies = (if isRequest p && (dispatch routes p).isNone then [notImplemented p] else []) := by
  unfold route
  cases dispatch routes p with
  | none =>
    show (if isRequest p then _ else _ : Out).replies = _
    cases isRequest p <;> rfl
  | some i => simp

/-- Shape of the error reply: type `error`, the request's id, from/to swapped, 501 / cancel / feature-not-implemented. -/
theorem C06_reply_shape (p : Pkt) :
    (notImplemented p).type = "error" ∧ (notImplemented p).id = p.id ∧
    (notImplemented p).from_ = p.to ∧ (notImplemented p).to = p.from_ ∧
    (notImplemented p).code = 501 ∧ (notImplemented p).etype = "cancel" ∧
    (notImplemented p).reason = "feature-not-implemented" := by
  simp [notImplemented]

theorem C06_oracle_accepts_model (routes : List Route) (p : Pkt) : holds routes p (route routes p) = true := by
  unfold holds
  rw [C06_exactly_one_handler, C06_reply_iff]
  cases hd : dispatch routes p with
  | none =>
    have := (C06_no_match routes p).mp hd
    cases isRequest p <;> simpa using this
  | some i =>
    obtain ⟨hlt, hacc, hfirst⟩ := (C06_first_match routes p i).mp hd
    have hbefore : ∀ r ∈ routes.take i, r.accepts p = false := by
      intro r hr
      obtain ⟨j, hj, rfl⟩ := List.mem_take_iff_getElem.mp hr
      simpa using hfirst j (by omega)
    simpa [List.getElem?_eq_getElem hlt, hacc] using hbefore

-- non-vacuity: a table where the second route is the first match; a catch-all in first position wins
example : route [[.name "message"], [.name "iq", .stype ["get"]], []] ⟨.iq, "get", none, "1", "a", "b"⟩ = ⟨[1], []⟩ := by decide +kernel
example : route [[], [.name "iq"]] ⟨.iq, "get", none, "1", "a", "b"⟩ = ⟨[0], []⟩ := by decide +kernel
example : route [[.name "message"]] ⟨.iq, "set", some "jabber:iq:version", "7", "a", "b"⟩
    = ⟨[], [⟨"error", "7", "b", "a", 501, "cancel", "feature-not-implemented"⟩]⟩ := by decide +kernel
example : route [[.name "message"]] ⟨.iq, "result", none, "7", "a", "b"⟩ = ⟨[], []⟩ := by decide +kernel
example : route [[.stype ["normal"]]] ⟨.message, "", none, "", "", ""⟩ = ⟨[0], []⟩ := by decide +kernel

end XmppVerif.Props.C06

#print axioms XmppVerif.Props.C06.C06_matcher_spec
#print axioms XmppVerif.Props.C06.C06_route_spec
#print axioms XmppVerif.Props.C06.C06_catch_all
#print axioms XmppVerif.Props.C06.C06_first_match
#print axioms XmppVerif.Props.C06.C06_no_match
#print axioms XmppVerif.Props.C06.C06_exactly_one_handler
#print axioms XmppVerif.Props.C06.C06_reply_iff
#print axioms XmppVerif.Props.C06.C06_reply_shape
#print axioms XmppVerif.Props.C06.C06_oracle_accepts_model
