import XmppVerif.Spec.C16
/-
C16 - the component handshake digest is exact; success requires the server's handshake.
-/
namespace XmppVerif.Props.C16
open XmppVerif.Model.C16 XmppVerif.Spec.C16 XmppVerif.Util

theorem hexDigit_table : ∀ n : Fin 16,
    hexVal (hexDigit n.val) = some n.val ∧
    hexDigit n.val ∈ hexChars ∧ (hexDigit n.val).isUpper = false ∧ hexDigit n.val ∉ ['<', '>', '&', '"', '\''] := by
  decide +kernel

theorem hexLower_cons (b : UInt8) (bs : List UInt8) :
    hexLower (b :: bs) = hexDigit (b.toNat / 16) :: hexDigit (b.toNat % 16) :: hexLower bs := rfl

theorem hexLower_length (bs : List UInt8) : (hexLower bs).length = 2 * bs.length := by
  induction bs with
  | nil => rfl
  | cons b bs ih =>
    rw [hexLower_cons]
    simp only [List.length_cons, ih]
    omega

theorem hexLower_forall {P : Char → Prop} (h : ∀ n, n < 16 → P (hexDigit n)) (bs : List UInt8) :
    ∀ c ∈ hexLower bs, P c := by
  induction bs with
  | nil => exact fun _ hc => nomatch hc
  | cons b bs ih =>
    have hb := b.toNat_lt
    rw [hexLower_cons]
    simp only [List.forall_mem_cons]
    exact ⟨h _ (by omega), h _ (by omega), ih⟩

/-- **hex shape**: two characters per byte, each one of 0-9a-f: lower case, and no XML metacharacter (so the text
inside `<handshake>%s</handshake>` cannot inject markup). -/
theorem C16_hex_shape (bs : List UInt8) :
    (hexLower bs).length = 2 * bs.length ∧
    ∀ c ∈ hexLower bs, c ∈ hexChars ∧ c.isUpper = false ∧ c ∉ ['<', '>', '&', '"', '\''] :=
  ⟨hexLower_length bs, hexLower_forall (fun n h => (hexDigit_table ⟨n, h⟩).2) bs⟩

theorem C16_hex_rt (bs : List UInt8) : hexToBytesAux (hexLower bs) = some bs := by
  induction bs with
  | nil => rfl
  | cons b bs ih =>
    have hb := b.toNat_lt
    have hn : b.toNat / 16 * 16 + b.toNat % 16 = b.toNat := by omega
    simp only [hexLower_cons, hexToBytesAux, (hexDigit_table ⟨b.toNat / 16, by omega⟩).1,
      (hexDigit_table ⟨b.toNat % 16, by omega⟩).1, ih, Option.bind_eq_bind, Option.bind_some, Option.pure_def, hn,
      UInt8.ofNat_toNat]

/-- **hex injective**: different hashes never share a hex text. -/
theorem C16_hex_inj (x y : List UInt8) (h : hexLower x = hexLower y) : x = y :=
  Option.some.inj ((C16_hex_rt x).symm.trans ((congrArg hexToBytesAux h).trans (C16_hex_rt y)))

-- SHA-1: structural facts only; the function itself is validated on the FIPS vectors below and against crypto/sha1

/-- the padded message is a whole number of 64-byte blocks, for every message length -/
theorem C16_pad_length (m : List UInt8) : (pad m).length % 64 = 0 ∧ m.length + 9 ≤ (pad m).length := by
  unfold pad be64
  simp only [List.length_append, List.length_cons, List.length_replicate, List.length_nil]
  omega

theorem words_length : ∀ l : List UInt8, (words l).length = l.length / 4
  | [] => rfl
  | [_] => by simp [words]
  | [_, _] => by simp [words]
  | [_, _, _] => by simp [words]
  | _ :: _ :: _ :: _ :: rest => by
    simp only [words, List.length_cons, words_length rest]
    omega

/-- every word of the padded message is consumed: 16 words per block, `length / 64` blocks -/
theorem C16_pad_blocks (m : List UInt8) : (words (pad m)).length = 16 * ((pad m).length / 64) := by
  rw [words_length]
  have := (C16_pad_length m).1
  omega

theorem C16_sha1_length (m : List UInt8) : (sha1 m).length = 20 := by
  simp [sha1, be32]

/-- **digest length**: the handshake text is 40 lower-case hex characters for every stream id and secret. -/
theorem C16_digest_len (streamId secret : List UInt8) :
    (digest streamId secret).length = 40 ∧
    ∀ c ∈ digest streamId secret, c ∈ hexChars ∧ c.isUpper = false ∧ c ∉ ['<', '>', '&', '"', '\''] := by
  have h := C16_hex_shape (sha1 (streamId ++ secret))
  rwa [C16_sha1_length] at h

/-- the digest identifies the hash: equal handshake texts mean equal SHA-1 values -/
theorem C16_digest_inj (i s i' s' : List UInt8) (h : digest i s = digest i' s') :
    sha1 (i ++ s) = sha1 (i' ++ s') := C16_hex_inj _ _ h

theorem foldl_overwrite {α β : Type} (p : α → Bool) (f : α → β) (l : List α) (start : β) :
    l.foldl (fun acc a => if p a then f a else acc) start = ((l.filter p).getLast?.map f).getD start := by
  induction l generalizing start with
  | nil => rfl
  | cons x xs ih =>
    rw [List.foldl_cons, ih, List.filter_cons]
    cases p x
    · rfl
    · rw [if_pos rfl, if_pos rfl, List.getLast?_cons]
      cases (xs.filter p).getLast? <;> rfl

/-- **stream id**: the id hashed is the value of the unqualified `id` attribute of the stream header. -/
theorem C16_stream_id (attrs : List Attr) : streamIdOf attrs = specId attrs := by
  have h := foldl_overwrite unqualifiedId Attr.value attrs []
  simp only [unqualifiedId, Bool.and_eq_true, beq_iff_eq] at h
  unfold streamIdOf specId
  rw [h]
  cases (attrs.filter unqualifiedId).getLast? <;> rfl

/-- namespaced attributes with local name `id` (`xml:id`, `xmlns:id`, `x:id`) never replace it, wherever they stand -/
theorem C16_stream_id_ignores_qualified (pre post : List Attr) (v : List UInt8)
    (hpost : ∀ a ∈ post, unqualifiedId a = false) :
    streamIdOf (pre ++ ⟨"", "id", v⟩ :: post) = v := by
  rw [C16_stream_id]
  unfold specId
  have hf : List.filter unqualifiedId post = [] := List.filter_eq_nil_iff.mpr (fun a h => by simp [hpost a h])
  have hu : unqualifiedId ⟨"", "id", v⟩ = true := by simp [unqualifiedId]
  simp [List.filter_append, hu, hf]

/-- **established iff handshake**: the connection is reported established - nil returned, the established state
announced, the receive loop started - exactly when the stream was opened, the digest written and the server answered
with a handshake element. -/
theorem C16_established_iff_handshake (conn : Connect) (secret : List UInt8) (w : Bool) (r : Reply) :
    let res := resume conn secret w r
    let good := (∃ attrs, conn = .opened attrs) ∧ w = true ∧ r = .handshake
    (res.established = true ↔ good) ∧ (res.err = none ↔ good) ∧ (res.recvStarted = true ↔ good) := by
  cases conn with
  | refused | noStream => simp [resume, Result.established]
  | opened attrs => cases w <;> cases r <;> simp [resume, Result.established]

/-- **any other reply**: a stream error, another packet, a malformed or closed stream yield an error (a permanent
ConnError when the digest had been written), no established state, and no receive loop: nothing is routed. -/
theorem C16_other_reply_error_not_established (conn : Connect) (secret : List UInt8) (w : Bool) (r : Reply)
    (h : r ≠ .handshake) :
    let res := resume conn secret w r
    res.err.isSome = true ∧ res.established = false ∧ res.recvStarted = false ∧
    (∀ s ∈ res.states, s = .streamError ∨ s = .permanentError) ∧
    (res.sentDigest.isSome = true → res.err = some true) := by
  cases conn with
  | refused | noStream => simp [resume, Result.established]
  | opened attrs => cases w <;> cases r <;> simp_all [resume, Result.established]

/-- exactly one state is announced per attempt, and it is the final one -/
theorem C16_one_state (conn : Connect) (secret : List UInt8) (w : Bool) (r : Reply) :
    (resume conn secret w r).states.length = 1 := by
  cases conn with
  | refused | noStream => rfl
  | opened attrs => cases w <;> cases r <;> rfl

/-- **A failed further attempt never leaves the component "established"**: whatever state it was in before (in
particular after the server closed the previous session gracefully, which leaves it established), `Resume` with any
reply other than a handshake - and with any connect or write failure - returns an error AND announces a state, and
that state is not "session established". -/
theorem C16_failed_attempt_not_established (conn : Connect) (secret : List UInt8) (writeOk : Bool) (reply : Reply)
    (h : ¬ (writeOk = true ∧ reply = .handshake ∧ ∃ a, conn = .opened a)) :
    let r := resume conn secret writeOk reply
    r.err.isSome = true ∧ ∃ st, r.states.getLast? = some st ∧ st ≠ .sessionEstablished := by
  intro r
  obtain ⟨hest, herr, _⟩ := C16_established_iff_handshake conn secret writeOk reply
  rw [← and_rotate] at h
  refine ⟨Option.isSome_iff_ne_none.mpr fun e => h (herr.mp e), ?_⟩
  -- the one announced state is the last one, and it is not the established state since none is
  match hs : r.states, C16_one_state conn secret writeOk reply with
  | [st], _ =>
    refine ⟨st, rfl, fun e => h (hest.mp ?_)⟩
    rw [Result.established, hs, e]
    rfl

/-- **digest sent**: whatever is written inside `<handshake>` is the 40-character lower-case hex SHA-1 of the
unqualified stream id followed by the secret. -/
theorem C16_digest_sent (conn : Connect) (secret : List UInt8) (w : Bool) (r : Reply) (d : List Char)
    (h : (resume conn secret w r).sentDigest = some d) :
    ∃ attrs, conn = .opened attrs ∧ d = hexLower (sha1 (specId attrs ++ secret)) ∧ d.length = 40 := by
  cases conn with
  | refused | noStream => cases h
  | opened attrs =>
    have hd : digest (streamIdOf attrs) secret = d := by
      cases w with
      | false => cases h
      | true => cases r <;> exact Option.some.inj h
    rw [← hd]
    exact ⟨attrs, rfl, by rw [C16_stream_id, digest], (C16_digest_len _ _).1⟩

/-- **oracle accepts model**: for every case the oracle accepts the model's own observation. -/
theorem C16_oracle_accepts_model (c : Case) : holds c (modelObs c) = true := by
  obtain ⟨conn, secret, w, r, posts⟩ := c
  cases conn with
  | refused | noStream => simp [holds, modelObs, resume, established, ConnState.code]
  | opened attrs =>
    have hid := C16_stream_id attrs
    cases w <;> cases r <;> simp [holds, modelObs, resume, established, ConnState.code, digest, hid]

private def ascii (s : String) : List UInt8 := s.toList.map fun c => UInt8.ofNat c.toNat

-- FIPS 180 / RFC 3174 test vectors (the kernel decodes a string literal through its UTF-8 bytes, quadratically;
-- `String.toList_ofList` hands it the character list)
example : hexLower (sha1 (ascii "abc")) = "a9993e364706816aba3e25717850c26c9cd0d89d".toList := by
  rw [ascii, String.toList_ofList, String.toList_ofList]
  decide +kernel
example : hexLower (sha1 []) = "da39a3ee5e6b4b0d3255bfef95601890afd80709".toList := by
  rw [String.toList_ofList]
  decide +kernel
example : hexLower (sha1 (ascii "abcdbcdecdefdefgefghfghighijhijkijkljklmklmnlmnomnopnopq")) =
    "84983e441c3bd26ebaae4aa1f95129e5e54670f1".toList := by
  rw [ascii, String.toList_ofList, String.toList_ofList]
  decide +kernel
-- XEP-0114 example 3 style: id ++ secret
example : digest (ascii "3BF96D32") (ascii "test") = hexLower (sha1 (ascii "3BF96D32test")) := by
  rw [digest, ascii, ascii, ascii, String.toList_ofList, String.toList_ofList, String.toList_ofList]
  rfl
example : (pad (ascii "abc")).length = 64 := by decide +kernel
example : (pad (List.replicate 56 0)).length = 128 := by decide +kernel
example : streamIdOf [⟨"", "id", [1]⟩, ⟨"http://www.w3.org/XML/1998/namespace", "id", [2]⟩] = [1] := by decide
-- the hypothesis of C16_stream_id_ignores_qualified is satisfiable
example : ∀ a ∈ [(⟨"xml", "id", [2]⟩ : Attr), ⟨"xmlns", "id", [3]⟩], unqualifiedId a = false := by decide
example : (resume (.opened []) [] true .handshake).established = true := by decide +kernel
example : (resume (.opened []) [] true .streamError).err = some true := by decide +kernel

theorem C16_reconnect_oracle_accepts_model (reply : Reply) :
    XmppVerif.Spec.C16.holdsReconnect reply (XmppVerif.Spec.C16.modelReconnect reply).1
      (XmppVerif.Spec.C16.modelReconnect reply).2 = true := by
  cases reply <;> decide

/-- Every life of one component value is judged on its own reply: whatever replies the earlier connections of the same
component met, the model reports a handshake reply as established (nil, state, announcement) and every other reply as
an error with a non-established state and no announcement. -/
theorem C16_lives_oracle_accepts_model (rs : List Reply) :
    XmppVerif.Spec.C16.holdsLives rs (XmppVerif.Spec.C16.modelLives rs) = true := by
  unfold holdsLives modelLives
  rw [List.length_map, beq_self_eq_true, Bool.true_and]
  induction rs with
  | nil => rfl
  | cons r rs ih =>
    rw [List.map_cons, List.zip_cons_cons, List.all_cons, ih, Bool.and_true]
    cases r <;> decide

example : XmppVerif.Spec.C16.holdsLives [.other, .handshake, .streamError]
    [(some true, 4, 0), (none, 2, 1), (some true, 3, 0)] = true := by decide
-- a component that stays in its earlier state is refused by the oracle
example : XmppVerif.Spec.C16.holdsLives [.other, .handshake] [(some true, 4, 0), (none, 4, 0)] = false := by decide
example : XmppVerif.Spec.C16.holdsLives [.streamError, .handshake, .streamError]
    [(some true, 3, 0), (none, 2, 1), (some true, 2, 0)] = false := by decide

end XmppVerif.Props.C16

#print axioms XmppVerif.Props.C16.C16_hex_shape
#print axioms XmppVerif.Props.C16.C16_hex_rt
#print axioms XmppVerif.Props.C16.C16_hex_inj
#print axioms XmppVerif.Props.C16.C16_pad_length
#print axioms XmppVerif.Props.C16.C16_pad_blocks
#print axioms XmppVerif.Props.C16.C16_sha1_length
#print axioms XmppVerif.Props.C16.C16_digest_len
#print axioms XmppVerif.Props.C16.C16_digest_inj
#print axioms XmppVerif.Props.C16.C16_stream_id
#print axioms XmppVerif.Props.C16.C16_stream_id_ignores_qualified
#print axioms XmppVerif.Props.C16.C16_established_iff_handshake
#print axioms XmppVerif.Props.C16.C16_other_reply_error_not_established
#print axioms XmppVerif.Props.C16.C16_one_state
#print axioms XmppVerif.Props.C16.C16_digest_sent
#print axioms XmppVerif.Props.C16.C16_oracle_accepts_model
#print axioms XmppVerif.Props.C16.C16_failed_attempt_not_established
#print axioms XmppVerif.Props.C16.C16_reconnect_oracle_accepts_model
#print axioms XmppVerif.Props.C16.C16_lives_oracle_accepts_model
