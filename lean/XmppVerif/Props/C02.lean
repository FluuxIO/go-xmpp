import XmppVerif.Spec.C02
/-
C02 theorems (token level; `armFix` = the loops of /repo after the F-02 fix). `run_kids` is the centre: every decoder
of the fixed tree consumes exactly its element; the stream theorems read one top-level item at a time
(`item_stops_or_goes_on`).
-/
namespace XmppVerif.Props.C02
open XmppVerif.Model.C02 XmppVerif.Spec.C02

-- With the pre-fix table `armOld` these two inputs show the two symptoms of F-02: the outer decoder stops at the
-- nested element's end (`early`), and a body is taken from a nested element. With `armFix` neither happens.

def nMsg : Name := ⟨nsClient, "message"⟩
def nX : Name := ⟨"u", "x"⟩
def nBody : Name := ⟨nsClient, "body"⟩

/-- `<message><x xmlns='u'><message xmlns='jabber:client'/></x></message><message/>` -/
def witnessNested : List Tree := [.elem nMsg [] [.elem nX [] [.elem nMsg [] []]], .elem nMsg [] []]
/-- `<message><x xmlns='u'><body>nested</body></x></message>` -/
def witnessBody : List Tree := [.elem nMsg [] [.elem nX [] [.elem nBody [] [.text "nested"]]]]

example : packetsWith armOld 20 (toksL witnessNested) = [.err .early] := by decide +kernel
example : packetsWith armOld 20 (toksL witnessBody)
    = [.pkt ⟨.message, "", "", "", "", "nested"⟩, .err .eof] := by decide +kernel
example : packets (toksL witnessNested)
    = [.pkt ⟨.message, "", "", "", "", ""⟩, .pkt ⟨.message, "", "", "", "", ""⟩, .err .eof] := by decide +kernel
example : packets (toksL witnessBody) = [.pkt ⟨.message, "", "", "", "", ""⟩, .err .eof] := by decide +kernel


/-- the F-02 fix in the model's terms: no loop goes on inside a child it has not consumed -/
theorem armFix_ne_descend (dec : Dec) (n : Name) : armFix dec n ≠ .descend := by
  -- every row of `armWith` is a chain of `if`s whose ends are a `call`, a `reject`, or the arm for unknown children
  cases dec <;> simp only [armFix, armWith]
  all_goals repeat' split
  all_goals simp

theorem run_length (A : Dec → Name → Arm) (f : Nat) (dec : Dec) (self : Name) (d : Nat) (ts r : List Tok) (i : Info)
    (h : run A f dec self d ts = .ok r i) : r.length < ts.length := by
  -- `run.induct` numbers its cases by the branches of `run`, top to bottom: 1 no fuel, 2 no token, 3-4 text (rest
  -- succeeds / fails), 5 misc, 6-7 end element at depth 0 (foreign name / own), 8-9 end element deeper (own name:
  -- early / go on), 10 descend, 11 reject, 12-15 call (all succeed / rest fails / value rejected / child fails).
  fun_induction run A f dec self d ts generalizing r i with
  | case1 | case2 | case4 | case6 | case8 | case11 | case13 | case14 | case15 => cases h
  | case3 _ _ _ _ _ _ _ _ hr ih => cases h; exact Nat.lt_succ_of_lt (ih _ _ hr)
  | case5 _ _ _ _ _ ih | case9 _ _ _ _ _ _ _ _ ih | case10 _ _ _ _ _ _ _ _ ih => exact Nat.lt_succ_of_lt (ih _ _ h)
  | case7 => cases h; exact Nat.lt_succ_self _
  | case12 _ _ _ _ _ _ _ _ _ _ _ hc _ _ _ hr ihc ihr =>
    cases h
    exact Nat.lt_succ_of_lt (Nat.lt_trans (ihr _ _ hr) (ihc _ _ hc))

theorem run_no_fuel (A : Dec → Name → Arm) (f : Nat) (dec : Dec) (self : Name) (d : Nat) (ts : List Tok)
    (h : ts.length < f) : run A f dec self d ts ≠ .err .fuel := by
  fun_induction run A f dec self d ts with
  | case1 => cases h
  | case2 | case3 | case6 | case7 | case8 | case11 | case12 | case14 => nofun
  | case4 _ _ _ _ _ _ e he ih | case15 _ _ _ _ _ _ _ _ _ e he ih =>
    exact fun hf => ih (Nat.lt_of_succ_lt_succ h) (he.trans hf)
  | case5 _ _ _ _ _ ih | case9 _ _ _ _ _ _ _ _ ih | case10 _ _ _ _ _ _ _ _ ih => exact ih (Nat.lt_of_succ_lt_succ h)
  | case13 _ _ _ _ _ _ _ _ _ _ _ hc _ e he _ ihr =>
    -- the loop goes on behind the child with the same fuel on a shorter rest
    have := run_length A _ _ _ _ _ _ _ hc
    exact fun hf => ihr (by simp at h; omega) (he.trans hf)

theorem nextPacket_length (A : Dec → Name → Arm) (ts r : List Tok) (p : Packet)
    (h : nextPacketWith A ts = (.pkt p, r)) : r.length < ts.length := by
  -- cases of `nextPacketWith.induct`: 1 no token, 2 text, 3 misc, 4 the stream's end tag, 5 another end tag,
  -- 6 name outside the dispatch table, 7-9 name in the table (packet / attribute rejected / decoder fails)
  fun_induction nextPacketWith A ts with
  | case1 | case6 | case8 | case9 => cases h
  | case2 _ _ ih | case3 _ ih | case5 _ _ _ ih => exact Nat.lt_succ_of_lt (ih h)
  | case4 => cases h; exact Nat.lt_succ_self _
  | case7 _ _ _ _ _ _ _ hr => cases h; exact Nat.lt_succ_of_lt (run_length A _ _ _ _ _ _ _ hr)

theorem nextPacket_no_fuel (A : Dec → Name → Arm) (ts r : List Tok) (e : ErrClass)
    (h : nextPacketWith A ts = (.err e, r)) : e ≠ .fuel := by
  fun_induction nextPacketWith A ts with
  | case1 | case6 | case8 => cases h; nofun
  | case4 | case7 => cases h
  | case2 _ _ ih | case3 _ ih | case5 _ _ _ ih => exact ih h
  | case9 _ _ _ _ _ e' he =>
    cases h
    exact fun hf => run_no_fuel A _ _ _ _ _ (Nat.lt_succ_self _) (hf ▸ he)

theorem packetsWith_fuel_irrelevant (A : Dec → Name → Arm) :
    ∀ (f g : Nat) (ts : List Tok), ts.length < f → ts.length < g → packetsWith A f ts = packetsWith A g ts
  | f + 1, g + 1, ts, hf, hg => by
    simp only [packetsWith]
    cases hnp : nextPacketWith A ts with
    | mk res r =>
      cases res with
      | err e => rfl
      | pkt p =>
        have := nextPacket_length A _ _ _ hnp
        exact congrArg _ (packetsWith_fuel_irrelevant A f g r (by omega) (by omega))

/-- `packets` without its fuel -/
theorem packets_unfold (ts : List Tok) :
    packets ts = (match nextPacket ts with
                  | (.pkt p, r) => .pkt p :: packets r
                  | (.err e, _) => [.err e]) := by
  unfold packets nextPacket
  rw [packetsWith]
  cases hnp : nextPacketWith armFix ts with
  | mk res r =>
    cases res with
    | err e => rfl
    | pkt p =>
      have := nextPacket_length armFix _ _ _ hnp
      exact congrArg _ (packetsWith_fuel_irrelevant armFix ts.length (r.length + 1) r (by omega) (by omega))

theorem packets_err (ts : List Tok) (e : ErrClass) (h : (nextPacket ts).1 = .err e) : packets ts = [.err e] := by
  rw [packets_unfold]
  cases hnp : nextPacket ts with
  | mk res r =>
    rw [hnp] at h
    cases h
    rfl

theorem forest_induction {motive : List Tree → Prop} (nil : motive [])
    (text : ∀ s ts, motive ts → motive (.text s :: ts)) (misc : ∀ ts, motive ts → motive (.misc :: ts))
    (elem : ∀ n as kk ts, motive kk → motive ts → motive (.elem n as kk :: ts)) : ∀ ks, motive ks :=
  -- `Tree.rec_1`: the recursor of the nested type at `List Tree`; minor premises: elem, text, misc (of `Tree`), nil, cons
  Tree.rec_1 (motive_1 := fun t => ∀ ts, motive ts → motive (t :: ts)) (motive_2 := motive)
    (fun n as kk ihk ts ihs => elem n as kk ts ihk ihs) text misc nil (fun _ ts iht ihs => iht ts ihs)

/-- what the loop does with the rest once a child has been handled -/
def andThen (k : Info → Info) : Res → Res
  | .ok r i => .ok r (k i)
  | .err e => .err e

/-- One step of a loop at a child element, given that every decoder is exact on the child's own content `kk`. -/
theorem run_elem (dec : Dec) (self n : Name) (as : List Attr) (kk : List Tree) (rest : List Tok) (f : Nat)
    (hkk : ∀ c, run armFix f c n 0 (toksL kk ++ .stop n :: rest) =
      if kidsOk c kk then .ok rest (infoOf kk) else .err .value) :
    run armFix (f + 1) dec self 0 (toks (.elem n as kk) ++ rest) =
      if treeOk dec (.elem n as kk) then
        andThen (fun i => { i with kids := (n, directText kk) :: i.kids }) (run armFix f dec self 0 rest)
      else .err .value := by
  cases harm : armFix dec n with
  | descend => exact absurd harm (armFix_ne_descend dec n)
  | reject => simp [toks, run, treeOk, harm]
  | call c =>
    simp only [toks, List.cons_append, List.append_assoc, List.nil_append, run, treeOk, harm, hkk c]
    cases kidsOk c kk
    · simp
    · cases hv : valueOk dec n (infoOf kk)
      · simp [hv]
      · simp only [hv, if_true, Bool.and_self]
        cases run armFix f dec self 0 rest <;> simp [andThen, infoOf]

/-- A decoder that stands inside its element, before the forest `ks` of remaining children: it returns exactly behind
its own end element, for ANY tokens `rest` behind it. -/
theorem run_kids (ks : List Tree) (dec : Dec) (self : Name) (rest : List Tok) (f : Nat) (hf : (toksL ks).length < f) :
    run armFix f dec self 0 (toksL ks ++ .stop self :: rest) =
      if kidsOk dec ks then .ok rest (infoOf ks) else .err .value := by
  induction ks using forest_induction generalizing dec self rest f with
  | nil =>
    match f, hf with
    | f + 1, _ => simp [toksL, run, kidsOk, infoOf, directText, kidInfos, Info.empty]
  | text _ ts ih | misc ts ih =>
    match f, hf with
    | f + 1, hf =>
      have hts := ih dec self rest f (by simp [toksL, toks] at hf; omega)
      simp only [toksL, toks, List.cons_append, List.nil_append, run, hts, kidsOk, treeOk, Bool.true_and]
      cases kidsOk dec ts <;> simp [infoOf, directText, kidInfos]
  | elem n as kk ts ihk ihs =>
    match f, hf with
    | f + 1, hf =>
      simp only [toksL, toks, List.cons_append, List.length_cons, List.length_append, List.length_nil] at hf
      rw [toksL, List.append_assoc, run_elem dec self n as kk _ f (fun c => ihk c n _ f (by omega)),
        ihs dec self rest f (by omega), kidsOk]
      cases treeOk dec (.elem n as kk) <;> cases kidsOk dec ts
      all_goals simp [andThen, infoOf, directText, kidInfos]

theorem run_tree (t : Tree) : ∀ (dec : Dec) (self : Name) (R : List Tok) (f : Nat), (toks t).length ≤ f + 1 →
    run armFix (f + 1) dec self 0 (toks t ++ R) =
      (match t with
       | .elem n _ kk =>
          if treeOk dec t then andThen (fun i => { i with kids := (n, directText kk) :: i.kids }) (run armFix f dec self 0 R)
          else .err .value
       | .text s => andThen (fun i => { i with text := s ++ i.text }) (run armFix f dec self 0 R)
       | .misc => run armFix f dec self 0 R) := by
  intro dec self R f hf
  cases t with
  | text s =>
    simp only [toks, List.cons_append, List.nil_append, run]
    cases run armFix f dec self 0 R <;> simp [andThen]
  | misc => simp only [toks, List.cons_append, List.nil_append, run]
  | elem n as kk =>
    simp only [toks, List.length_cons, List.length_append, List.length_nil] at hf
    exact run_elem dec self n as kk R f (fun c => run_kids kk c n R f (by omega))

theorem nextPacket_elem (n : Name) (as : List Attr) (kk : List Tree) (rest : List Tok) (k : Kind)
    (hd : dispatch n = some k) :
    nextPacket (toks (.elem n as kk) ++ rest) =
      if itemTyped (.tree (.elem n as kk)) then (.pkt (mkPacket k as (infoOf kk)), rest) else (.err .value, []) := by
  simp only [nextPacket, toks, List.cons_append, List.append_assoc, List.nil_append, nextPacketWith, itemTyped, hd]
  rw [run_kids kk _ _ _ _ (by simp only [List.length_append, List.length_cons]; omega)]
  cases kidsOk (kindDec k) kk <;> cases topAttrsOk k as <;> rfl

theorem nextPacket_unknown (n : Name) (as : List Attr) (kk : List Tree) (rest : List Tok) (hd : dispatch n = none) :
    (nextPacket (toks (.elem n as kk) ++ rest)).1 = .err .unknown := by
  simp only [nextPacket, toks, List.cons_append, nextPacketWith, hd]

theorem packets_text (s : String) (rest : List Tok) : packets (.text s :: rest) = packets rest := by
  rw [packets_unfold, packets_unfold rest]; rfl

theorem packets_misc (rest : List Tok) : packets (.misc :: rest) = packets rest := by
  rw [packets_unfold, packets_unfold rest]; rfl

theorem packets_close (rest : List Tok) : packets (.stop streamEnd :: rest) = .pkt closePacket :: packets rest := by
  rw [packets_unfold]; simp [nextPacket, nextPacketWith]

theorem packets_elem (n : Name) (as : List Attr) (kk : List Tree) (rest : List Tok) (k : Kind)
    (hd : dispatch n = some k) :
    packets (toks (.elem n as kk) ++ rest) =
      if itemTyped (.tree (.elem n as kk)) then .pkt (mkPacket k as (infoOf kk)) :: packets rest
      else [.err .value] := by
  rw [packets_unfold, nextPacket_elem n as kk rest k hd]
  cases itemTyped (.tree (.elem n as kk)) <;> rfl

theorem packets_elem_unknown (n : Name) (as : List Attr) (kk : List Tree) (rest : List Tok) (hd : dispatch n = none) :
    packets (toks (.elem n as kk) ++ rest) = [.err .unknown] :=
  packets_err _ _ (nextPacket_unknown n as kk rest hd)

theorem packets_nil : packets [] = [.err .eof] := by decide

/-- A top-level item either stops the reader or lets it go on.
Stop: an element outside the dispatch table. Reference and model answer `unknown`; nothing behind it is read.
Go on: anything else. The reference expects only packets (none for text and comments); if the item is well typed the
model yields exactly these and stands at the tokens behind the item. -/
theorem item_stops_or_goes_on (i : Item) :
    (classifyItem i = [.err .unknown] ∧
      (∀ is, dispatchable (i :: is) = false) ∧
      (∀ rest, packets (i.toks ++ rest) = [.err .unknown]))
    ∨
    ((∃ ps : List Packet, classifyItem i = ps.map .pkt) ∧
      (∀ is, dispatchable (i :: is) = dispatchable is) ∧
      (itemTyped i = true → ∀ rest, packets (i.toks ++ rest) = classifyItem i ++ packets rest)) := by
  match i with
  | .close => exact .inr ⟨⟨[closePacket], rfl⟩, fun _ => rfl, fun _ rest => packets_close rest⟩
  | .tree (.text s) => exact .inr ⟨⟨[], rfl⟩, fun _ => rfl, fun _ rest => packets_text s rest⟩
  | .tree .misc => exact .inr ⟨⟨[], rfl⟩, fun _ => rfl, fun _ rest => packets_misc rest⟩
  | .tree (.elem n as kk) =>
    cases hk : dispatch n with
    | none =>
      exact .inl ⟨by simp [classifyItem, classify, hk], by simp [dispatchable, hk],
        fun rest => packets_elem_unknown n as kk rest hk⟩
    | some k =>
      refine .inr ⟨⟨[mkPacket k as (infoOf kk)], by simp [classifyItem, classify, hk]⟩,
        by simp [dispatchable, hk], ?_⟩
      intro ht rest
      simp [Item.toks, packets_elem n as kk rest k hk, ht, classifyItem, classify, hk]

/-- C02, main statement. For EVERY list of top-level items whose elements are in the dispatch table and carry values
their Go field types accept (arbitrary descendants otherwise: unknown extensions, any depth, descendants named like the
stanza itself), followed by ANY further tokens: reading yields exactly the expected packet per item, in order, and
then goes on with the remaining tokens as if the items had not been there - every decoder leaves the position
exactly after its element. -/
theorem C02_one_per_element (is : List Item) (rest : List Tok)
    (hd : dispatchable is = true) (ht : typedOk is = true) :
    packets (itemsToks is ++ rest) = expected is ++ packets rest := by
  induction is with
  | nil => rfl
  | cons i is ih =>
    have ht' : itemTyped i = true ∧ typedOk is = true := by simpa [typedOk] using ht
    rcases item_stops_or_goes_on i with ⟨_, hstop, _⟩ | ⟨_, hgo, hp⟩
    · rw [hstop] at hd; cases hd
    · rw [hgo] at hd
      simp only [itemsToks, List.append_assoc, hp ht'.1, ih hd ht'.2, expected, List.flatMap_cons]

theorem C02_stream (is : List Item) (hd : dispatchable is = true) (ht : typedOk is = true) :
    packets (itemsToks is) = expected is ++ [.err .eof] := by
  simpa [packets_nil] using C02_one_per_element is [] hd ht

/-- every expected entry of a dispatchable stream is a packet: one per element / closing tag, none for text -/
theorem C02_expected_all_packets (is : List Item) (hd : dispatchable is = true) :
    ∀ r ∈ expected is, ∃ p, r = .pkt p := by
  induction is with
  | nil => intro r hr; cases hr
  | cons i is ih =>
    rcases item_stops_or_goes_on i with ⟨_, hstop, _⟩ | ⟨⟨ps, hps⟩, hgo, _⟩
    · rw [hstop] at hd; cases hd
    · rw [hgo] at hd
      intro r hr
      simp only [expected, List.flatMap_cons, List.mem_append, hps, List.mem_map] at hr
      rcases hr with ⟨p, _, hp⟩ | hr
      · exact ⟨p, hp.symm⟩
      · exact ih hd r hr

theorem dispatchable_append (a b : List Item) : dispatchable (a ++ b) = (dispatchable a && dispatchable b) := by
  induction a with
  | nil => rfl
  | cons i is ih =>
    rcases item_stops_or_goes_on i with ⟨_, hstop, _⟩ | ⟨_, hgo, _⟩
    · rw [List.cons_append, hstop, hstop, Bool.false_and]
    · rw [List.cons_append, hgo, hgo, ih]

theorem typedOk_append (a b : List Item) : typedOk (a ++ b) = (typedOk a && typedOk b) := by
  simp [typedOk]

theorem dispatch_mem (n : Name) (k : Kind) (h : dispatch n = some k) : (n.key, k) ∈ dispatchTable := by
  obtain ⟨before, after, htable, _⟩ := List.lookup_eq_some_iff.mp h
  rw [htable]
  exact List.mem_append_right _ List.mem_cons_self

theorem dispatch_not_close (n : Name) (k : Kind) (h : dispatch n = some k) : k ≠ .streamClose :=
  (by decide : ∀ e ∈ dispatchTable, e.2 ≠ Kind.streamClose) _ (dispatch_mem n k h)

theorem mkPacket_kind (k : Kind) (as : List Attr) (i : Info) : (mkPacket k as i).kind = k := by
  unfold mkPacket; split <;> rfl

theorem classify_not_close (t : Tree) (p : Packet) (h : .pkt p ∈ classify t) : p.kind ≠ .streamClose := by
  cases t with
  | text s => cases h
  | misc => cases h
  | elem n as kk =>
    cases hk : dispatch n with
    | none => simp [classify, hk] at h
    | some k =>
      simp only [classify, hk, List.mem_singleton, PRes.pkt.injEq] at h
      rw [h, mkPacket_kind]
      exact dispatch_not_close n k hk

/-- kind and addressing: the packet of a dispatch-table element has the kind the table gives its (namespace, name),
and for stanzas type / id / from / to are the values of the element's OWN attributes with these local names (the last
one if repeated), whatever the element contains; nothing is left over or taken from the following tokens. -/
theorem C02_kind_and_addressing (n : Name) (as : List Attr) (kk : List Tree) (R : List Tok) (k : Kind)
    (hd : dispatch n = some k) (ht : itemTyped (.tree (.elem n as kk)) = true) :
    ∃ p, nextPacket (toks (.elem n as kk) ++ R) = (.pkt p, R) ∧ p.kind = k ∧
      (isStanza k = true → p.type = attrLast "type" as ∧ p.id = attrLast "id" as ∧
        p.frm = attrLast "from" as ∧ p.to = attrLast "to" as) ∧
      (k = .message → p.summary = lastKid msgExt "body" (kidInfos kk)) ∧
      (k = .presence → p.summary = lastKid presExt "status" (kidInfos kk)) := by
  refine ⟨mkPacket k as (infoOf kk), ?_, ?_, ?_, ?_, ?_⟩
  · rw [nextPacket_elem n as kk R k hd, ht]; rfl
  · exact mkPacket_kind k as _
  · intro hs; simp [mkPacket, hs]
  · rintro rfl; rfl
  · rintro rfl; rfl

/-- the attribute loops keep the LAST attribute with the local name -/
theorem attrLast_snoc (k : String) (as : List Attr) (a : Attr) :
    attrLast k (as ++ [a]) = if a.name.loc = k then a.value else attrLast k as := by
  simp [attrLast, List.foldl_append]

theorem C02_addressing_ignores_content (k : Kind) (as : List Attr) (i i' : Info) :
    (mkPacket k as i).type = (mkPacket k as i').type ∧ (mkPacket k as i).id = (mkPacket k as i').id ∧
    (mkPacket k as i).frm = (mkPacket k as i').frm ∧ (mkPacket k as i).to = (mkPacket k as i').to ∧
    (mkPacket k as i).kind = (mkPacket k as i').kind := by
  unfold mkPacket; split <;> simp

/-- unknown namespace or name: after any prefix of good items, an element outside the dispatch table yields an
error at exactly that position, whatever it contains and whatever follows -/
theorem C02_unknown_is_error (is : List Item) (n : Name) (as : List Attr) (kk : List Tree) (rest : List Tok)
    (hd : dispatchable is = true) (ht : typedOk is = true) (hn : dispatch n = none) :
    packets (itemsToks is ++ (toks (.elem n as kk) ++ rest)) = expected is ++ [.err .unknown] := by
  rw [C02_one_per_element is _ hd ht, packets_elem_unknown n as kk rest hn]

theorem key_ne (n : Name) (s l : String) (h : n.space ≠ s) : ((n.space, n.loc) == (s, l)) = false := by
  rw [beq_eq_false_iff_ne]
  intro h2
  injection h2 with h3 _
  exact h h3

theorem dispatch_unknown_namespace (n : Name)
    (h : n.space ≠ nsStream ∧ n.space ≠ nsSASL ∧ n.space ≠ nsClient ∧ n.space ≠ nsComponent ∧ n.space ≠ nsSM) :
    dispatch n = none := by
  obtain ⟨h1, h2, h3, h4, h5⟩ := h
  simp only [nsStream, nsSASL, nsClient, nsComponent, nsSM] at h1 h2 h3 h4 h5
  simp [dispatch, dispatchTable, List.lookup, Name.key, key_ne n _ _ h1, key_ne n _ _ h2, key_ne n _ _ h3,
    key_ne n _ _ h4, key_ne n _ _ h5]

/-- F-02b (as-is behaviour, outside the region of `C02_one_per_element`): a dispatch-table element carrying a value
its Go field type rejects yields an error, and the stream is lost from there -/
theorem C02_partial_value_rejected (is : List Item) (n : Name) (as : List Attr) (kk : List Tree) (rest : List Tok)
    (k : Kind) (hd : dispatchable is = true) (ht : typedOk is = true) (hn : dispatch n = some k)
    (hbad : itemTyped (.tree (.elem n as kk)) = false) :
    packets (itemsToks is ++ (toks (.elem n as kk) ++ rest)) = expected is ++ [.err .value] := by
  rw [C02_one_per_element is _ hd ht, packets_elem n as kk rest k hn, hbad]
  rfl

/-- witness for F-02b: `<presence><priority>high</priority></presence>` -/
theorem C02_witness_value_rejected :
    packets (toks (.elem ⟨nsClient, "presence"⟩ [] [.elem ⟨nsClient, "priority"⟩ [] [.text "high"]]))
      = [.err .value] := by decide +kernel

theorem cutAtErr_pkts (ps : List Packet) (rs : List PRes) :
    cutAtErr (ps.map .pkt ++ rs) = ps.map .pkt ++ cutAtErr rs := by
  induction ps with
  | nil => rfl
  | cons p ps ih => simp [cutAtErr, ih]

/-- the model agrees with the reference on every stream whose dispatch-table elements are well typed (elements
outside the table included: the reference stops with an error there, and so does the model) -/
theorem C02_model_matches_spec (is : List Item) (ht : typedOk is = true) :
    modelObs is = cutAtErr (expected is) := by
  unfold modelObs
  induction is with
  | nil => rfl
  | cons i is ih =>
    have ht' : itemTyped i = true ∧ typedOk is = true := by simpa [typedOk] using ht
    simp only [itemsToks, expected, List.flatMap_cons]
    rcases item_stops_or_goes_on i with ⟨hc, _, hp⟩ | ⟨⟨ps, hps⟩, _, hp⟩
    · rw [hp, hc]; rfl
    · rw [hp ht'.1, hps, cutAtErr_pkts, List.map_append, ih ht'.2, List.map_map]; rfl

theorem C02_oracle_accepts_model (is : List Item) (ht : typedOk is = true) : holds is (modelObs is) = true := by
  simp [holds, C02_model_matches_spec is ht]

/-- the oracle rejects an observation that loses or adds a packet: it accepts exactly one observation per stream -/
theorem C02_oracle_unique (is : List Item) (o : List Obs) : holds is o = true ↔ o = cutAtErr (expected is) := by
  simp [holds]

/-- totality of the MODEL: every token list yields finitely many packets followed by exactly one error, which is
never the fuel marker (the fuel `packets` supplies always suffices), and there are at most as many packets as tokens.
This says nothing about the Go decoder's termination or absence of panics on arbitrary bytes: that is sampled
(truncations, corruptions) under a wall-clock bound. -/
theorem C02_total : ∀ (ts : List Tok), ∃ (ps : List Packet) (e : ErrClass),
    packets ts = ps.map .pkt ++ [.err e] ∧ e ≠ .fuel ∧ ps.length ≤ ts.length := by
  intro ts
  induction hm : ts.length using Nat.strongRecOn generalizing ts with
  | _ m ih =>
    rw [packets_unfold]
    cases hnp : nextPacket ts with
    | mk res r =>
      cases res with
      | err e => exact ⟨[], e, by simp, nextPacket_no_fuel armFix _ _ _ hnp, by simp⟩
      | pkt p =>
        have hl := nextPacket_length armFix _ _ _ hnp
        obtain ⟨ps, e, h1, h2, h3⟩ := ih r.length (by omega) r rfl
        exact ⟨p :: ps, e, by simp [h1], h2, by simp; omega⟩

/-- each decoder of the fixed tree - the three stanza loops, Err, TlsStartTLS, SMFailed, Command, PubSubOwner,
PubSubEvent, Forwarded, History, the reflection walks over StreamFeatures / Delegation / MucPresence, Skip and plain
reflection - started after the start element of ANY element with well-typed children, followed by ANY tokens, stops
exactly after the matching end element and keeps only what the element holds at its first level -/
theorem C02_every_decoder_exact (dec : Dec) (self : Name) (ks : List Tree) (rest : List Tok) (f : Nat)
    (hf : (toksL ks).length < f) (hk : kidsOk dec ks = true) :
    run armFix f dec self 0 (toksL ks ++ .stop self :: rest) = .ok rest (infoOf ks) := by
  rw [run_kids ks dec self rest f hf]; simp [hk]

theorem kidsOk_skip (ks : List Tree) : kidsOk .skip ks = true := by
  induction ks using forest_induction with
  | nil => rfl
  | text _ ts ih | misc ts ih => simpa [kidsOk, treeOk] using ih
  | elem n as kk ts ihk ihs =>
    have harm : armFix .skip n = .call .skip := rfl
    simp [kidsOk, treeOk, harm, valueOk, ihk, ihs]

theorem treeOk_skip (t : Tree) : treeOk .skip t = true := by
  simpa [kidsOk] using kidsOk_skip [t]

/-- an element that a loop consumes with `d.Skip()` / decodes as a Node is well typed whatever it contains: any
depth, any names (the stanza's own included), any text -/
theorem C02_region_unknown_content (dec : Dec) (n : Name) (as : List Attr) (kk : List Tree)
    (harm : armFix dec n = .call .skip) (hv : valueOk dec n (infoOf kk) = true) :
    treeOk dec (.elem n as kk) = true := by
  simp [treeOk, harm, kidsOk_skip kk, hv]

/-- in particular every child of a message that is neither a registered extension nor body / thread / subject /
error (the children F-02 was about) -/
theorem C02_region_message_unknown_child (n : Name) (as : List Attr) (kk : List Tree)
    (h1 : n.key ∉ msgExt)
    (h2 : n.loc ≠ "body" ∧ n.loc ≠ "thread" ∧ n.loc ≠ "subject" ∧ n.loc ≠ "error") :
    treeOk .message (.elem n as kk) = true := by
  apply C02_region_unknown_content
  · simp [armFix, armWith, h1, h2]
  · simp [valueOk]

theorem C02_region_presence_unknown_child (n : Name) (as : List Attr) (kk : List Tree)
    (h1 : n.key ∉ presExt)
    (h2 : n.loc ≠ "show" ∧ n.loc ≠ "status" ∧ n.loc ≠ "priority" ∧ n.loc ≠ "error") :
    treeOk .presence (.elem n as kk) = true := by
  apply C02_region_unknown_content
  · simp [armFix, armWith, h1, h2]
  · simp [valueOk, h2]

theorem C02_region_iq_unknown_child (n : Name) (as : List Attr) (kk : List Tree)
    (h1 : n.key ∉ iqExt) (h2 : n.loc ≠ "error") :
    treeOk .iq (.elem n as kk) = true := by
  apply C02_region_unknown_content
  · simp [armFix, armWith, h1, h2]
  · simp [valueOk]


def nIq : Name := ⟨nsClient, "iq"⟩
/-- message with a same-named descendant under an unknown extension, an iq with a pubsub#owner payload holding an
unknown child with a same-named descendant, stream management elements, inter-stanza whitespace, the closing tag -/
def sample : List Item := [
  .tree (.elem nMsg [⟨⟨"", "id"⟩, "m1"⟩, ⟨⟨"", "to"⟩, "a@b"⟩] [.elem nX [] [.elem nMsg [] [.elem nBody [] [.text "no"]]],
                              .elem nBody [] [.text "yes"]]),
  .tree (.text " "),
  .tree (.elem nIq [⟨⟨"", "type"⟩, "result"⟩, ⟨⟨"", "id"⟩, "first"⟩, ⟨⟨"", "id"⟩, "last"⟩]
    [.elem ⟨nsPSOwner, "pubsub"⟩ [] [.elem nX [] [.elem ⟨nsPSOwner, "pubsub"⟩ [] []]]]),
  .tree (.elem ⟨nsSM, "a"⟩ [⟨⟨"", "h"⟩, "12"⟩] []),
  .tree (.elem ⟨nsClient, "presence"⟩ [] [.elem ⟨nsClient, "priority"⟩ [] [.text " -5 "]]),
  .close]

example : dispatchable sample = true ∧ typedOk sample = true := by decide +kernel
example : packets (itemsToks sample) =
    [.pkt ⟨.message, "", "m1", "", "a@b", "yes"⟩, .pkt ⟨.iq, "result", "last", "", "", ""⟩,
     .pkt ⟨.smAnswer, "", "", "", "", ""⟩, .pkt ⟨.presence, "", "", "", "", ""⟩, .pkt closePacket, .err .eof] := by decide +kernel
example : dispatch ⟨"urn:u", "message"⟩ = none ∧ dispatch ⟨nsClient, "foo"⟩ = none ∧ dispatch ⟨nsSM, "enable"⟩ = none := by
  decide +kernel
example : itemTyped (.tree (.elem ⟨nsSM, "a"⟩ [⟨⟨"", "h"⟩, "x"⟩] [])) = false := by decide +kernel

end XmppVerif.Props.C02
#print axioms XmppVerif.Props.C02.C02_one_per_element
#print axioms XmppVerif.Props.C02.C02_stream
#print axioms XmppVerif.Props.C02.C02_every_decoder_exact
#print axioms XmppVerif.Props.C02.C02_region_unknown_content
#print axioms XmppVerif.Props.C02.C02_region_message_unknown_child
#print axioms XmppVerif.Props.C02.C02_region_presence_unknown_child
#print axioms XmppVerif.Props.C02.C02_region_iq_unknown_child
#print axioms XmppVerif.Props.C02.C02_expected_all_packets
#print axioms XmppVerif.Props.C02.C02_kind_and_addressing
#print axioms XmppVerif.Props.C02.attrLast_snoc
#print axioms XmppVerif.Props.C02.C02_addressing_ignores_content
#print axioms XmppVerif.Props.C02.C02_unknown_is_error
#print axioms XmppVerif.Props.C02.dispatch_unknown_namespace
#print axioms XmppVerif.Props.C02.C02_partial_value_rejected
#print axioms XmppVerif.Props.C02.C02_witness_value_rejected
#print axioms XmppVerif.Props.C02.C02_model_matches_spec
#print axioms XmppVerif.Props.C02.C02_oracle_accepts_model
#print axioms XmppVerif.Props.C02.C02_oracle_unique
#print axioms XmppVerif.Props.C02.C02_total
