import XmppVerif.Model.C08
/-
C08 - each send puts exactly the serialized stanza on the wire once, even concurrently.
The substance of this property is the atomicity of a single socket Write (assumed) and the fact that every send path
performs exactly one such Write (Tie.C08); the theorems make the consequences explicit.
-/
namespace XmppVerif.Props.C08
open XmppVerif.Model.C08

/-- **One write, exact bytes**: whatever the configuration and whatever the socket answers, a send calls the
socket's Write exactly once, with exactly the serialization. -/
theorem C08_one_write_exact_bytes (c : Cfg) (b : String) (k : Sock) : (send c b k).socketWrites = [b] := by
  obtain ⟨sm, lg⟩ := c
  cases sm <;> cases lg <;> cases k <;> rfl

/-- **A failed write is reported** to the caller, with or without logger and stream management. -/
theorem C08_error_reported (c : Cfg) (b : String) : (send c b .err).failed = true := by
  obtain ⟨sm, lg⟩ := c
  cases sm <;> cases lg <;> rfl

/-- a successful write reports no error; the traffic log (if any) gets a copy, the wire bytes do not depend on it -/
theorem C08_ok_independent_of_sm_and_logger (c c' : Cfg) (b : String) :
    (send c b .ok).socketWrites = (send c' b .ok).socketWrites ∧ (send c b .ok).failed = false := by
  refine ⟨by rw [C08_one_write_exact_bytes, C08_one_write_exact_bytes], ?_⟩
  obtain ⟨sm, lg⟩ := c
  cases sm <;> cases lg <;> rfl

/-- with the logger a short write is an error too (`io.ErrShortWrite`) -/
theorem C08_short_write_with_logger (sm : Bool) (b : String) : (send ⟨sm, true⟩ b .short).failed = true := by
  cases sm <;> rfl

/-- with stream management exactly the sent stanza is stored, once -/
theorem C08_stored_once (lg : Bool) (b : String) (k : Sock) :
    (send ⟨true, lg⟩ b k).stored = [b] ∧ (send ⟨false, lg⟩ b k).stored = [] := by
  cases lg <;> cases k <;> exact ⟨rfl, rfl⟩

/-- invariant of every concurrent execution: what goroutine g has put on the wire so far, followed by what it still
has to send, is its program - nothing lost, nothing duplicated, nothing reordered (that every wire entry is one whole
stanza of exactly one sender is the type `Wire`: one `Write` per send, Tie.C08) -/
theorem cstep_inv (c : Cfg) (prog : Nat → List String) (s : CSt) (g : Nat)
    (h : ∀ x, proj x s.wire ++ s.todo x = prog x) :
    ∀ x, proj x (cstep c s g).wire ++ (cstep c s g).todo x = prog x := by
  intro x
  unfold cstep
  cases hg : s.todo g with
  | nil => simpa using h x
  | cons b rest =>
    simp only [proj, List.filter_append, List.map_append]
    by_cases hx : x = g
    · subst hx
      have := h x
      simp only [proj, hg] at this
      simp [← this]
    · have hne : (g == x) = false := by simp [Ne.symm hx]
      have := h x
      simp only [proj] at this
      simp [hne, hx, this]

/-- **Concurrent senders**: for every program per goroutine and EVERY schedule, at every moment the wire restricted
to a sender is a prefix of its program in order, and when all have finished it is exactly the program: the wire is
an interleaving of whole stanzas. -/
theorem C08_wire_is_interleaving_of_whole_stanzas (c : Cfg) (prog : Nat → List String) (sched : List Nat) :
    ∀ s : CSt, (∀ x, proj x s.wire ++ s.todo x = prog x) →
      ∀ x, proj x (crun c s sched).wire ++ (crun c s sched).todo x = prog x := by
  induction sched with
  | nil => intro s h; exact h
  | cons g gs ih => intro s h; exact ih _ (cstep_inv c prog s g h)

theorem C08_all_sent_when_done (c : Cfg) (prog : Nat → List String) (sched : List Nat)
    (hdone : ∀ x, (crun c ⟨prog, [], []⟩ sched).todo x = []) :
    ∀ x, proj x (crun c ⟨prog, [], []⟩ sched).wire = prog x := by
  intro x
  have := C08_wire_is_interleaving_of_whole_stanzas c prog sched ⟨prog, [], []⟩ (by intro y; simp [proj]) x
  rw [hdone x] at this
  simpa using this

/-- with stream management the un-acked queue holds the stanzas in exactly the order they reached the wire (push and
write are one step under the queue lock) - the assumption C10 makes about concurrent senders -/
theorem C08_queue_order_is_wire_order (prog : Nat → List String) (sched : List Nat) :
    ∀ s : CSt, s.queue = s.wire.map (·.2) →
      (crun ⟨true, false⟩ s sched).queue = (crun ⟨true, false⟩ s sched).wire.map (·.2) := by
  induction sched with
  | nil => intro s h; exact h
  | cons g gs ih =>
    intro s h
    apply ih
    unfold cstep
    cases hg : s.todo g with
    | nil => exact h
    | cons b rest => simp [h]

example : (crun ⟨true, false⟩ ⟨fun g => if g = 0 then ["a1", "a2"] else if g = 1 then ["b1"] else [], [], []⟩ [0, 1, 1, 0]).wire
    = [(0, "a1"), (1, "b1"), (0, "a2")] := by decide

end XmppVerif.Props.C08

#print axioms XmppVerif.Props.C08.C08_one_write_exact_bytes
#print axioms XmppVerif.Props.C08.C08_error_reported
#print axioms XmppVerif.Props.C08.C08_ok_independent_of_sm_and_logger
#print axioms XmppVerif.Props.C08.C08_short_write_with_logger
#print axioms XmppVerif.Props.C08.C08_stored_once
#print axioms XmppVerif.Props.C08.cstep_inv
#print axioms XmppVerif.Props.C08.C08_wire_is_interleaving_of_whole_stanzas
#print axioms XmppVerif.Props.C08.C08_all_sent_when_done
#print axioms XmppVerif.Props.C08.C08_queue_order_is_wire_order
