import XmppVerif.Spec.C15
/-
C15 - JID parsing and formatting are consistent and reject malformed addresses. The proofs rest on equations for
`finish` and `newJid` on each shape of input: without the separator, or cut at its first occurrence (`first_cut`).
-/
namespace XmppVerif.Props.C15
open XmppVerif.Model.C15 XmppVerif.Spec.C15

private theorem splitFirst_skip (c : Char) (t a : List Char) (h : c ∉ a) :
    splitFirst c (a ++ t) = (a ++ (splitFirst c t).1, (splitFirst c t).2) := by
  induction a with
  | nil => simp
  | cons x xs ih =>
    rw [List.mem_cons, not_or] at h
    simp [splitFirst, Ne.symm h.1, ih h.2]

theorem splitFirst_of_not_mem (c : Char) (a : List Char) (h : c ∉ a) : splitFirst c a = (a, none) := by
  simpa [splitFirst] using splitFirst_skip c [] a h

theorem splitFirst_at_first (c : Char) (b a : List Char) (h : c ∉ a) :
    splitFirst c (a ++ c :: b) = (a, some b) := by
  simpa [splitFirst] using splitFirst_skip c (c :: b) a h

/-- the two shapes of input on which `splitFirst c` is known -/
theorem first_cut (c : Char) (s : List Char) : c ∉ s ∨ ∃ a b, s = a ++ c :: b ∧ c ∉ a :=
  (Decidable.em (c ∈ s)).symm.imp_right List.eq_append_cons_of_mem

private theorem valid_not_mem {bad u : List Char} {c : Char} (hc : c ∈ bad)
    (h : (u.all fun x => !invalidIn bad x) = true) : c ∉ u := by
  intro hm
  have := List.all_eq_true.mp h c hm
  simp [invalidIn, hc] at this

private theorem user_no_at {u : List Char} (h : isUsernameValid u = true) : '@' ∉ u :=
  valid_not_mem (by simp [userForbidden]) h
private theorem user_no_slash {u : List Char} (h : isUsernameValid u = true) : '/' ∉ u :=
  valid_not_mem (by simp [userForbidden]) h
private theorem dom_parts {d : List Char} (h : isDomainValid d = true) :
    d ≠ [] ∧ '@' ∉ d ∧ '/' ∉ d := by
  unfold isDomainValid at h
  simp only [Bool.and_eq_true, Bool.not_eq_true', List.isEmpty_eq_false_iff] at h
  exact ⟨h.1, valid_not_mem (by simp [domainForbidden]) h.2, valid_not_mem (by simp [domainForbidden]) h.2⟩

private def slash (r : List Char) : List Char := if r = [] then [] else '/' :: r

private theorem finish_cut (n d r : List Char) (hd : '/' ∉ d) :
    finish n (d ++ '/' :: r) = if isUsernameValid n && isDomainValid d then some ⟨n, d, r⟩ else none := by
  unfold finish
  rw [splitFirst_at_first '/' r d hd]
  cases isUsernameValid n <;> cases isDomainValid d <;> rfl

private theorem finish_noslash (n d : List Char) (hd : '/' ∉ d) :
    finish n d = if isUsernameValid n && isDomainValid d then some ⟨n, d, []⟩ else none := by
  unfold finish
  rw [splitFirst_of_not_mem '/' d hd]
  cases isUsernameValid n <;> cases isDomainValid d <;> rfl

private theorem finish_slash (n d r : List Char) (hd : '/' ∉ d) :
    finish n (d ++ slash r) = if isUsernameValid n && isDomainValid d then some ⟨n, d, r⟩ else none := by
  unfold slash
  split
  · subst r; simpa using finish_noslash n d hd
  · exact finish_cut n d r hd

private theorem newJid_noat (s : List Char) (h : '@' ∉ s) : newJid s = if s = [] then none else finish [] s := by
  rw [newJid, splitFirst_of_not_mem '@' s h]; rfl

private theorem newJid_at (l rest : List Char) (h : '@' ∉ l) :
    newJid (l ++ '@' :: rest) = if l = [] ∨ rest = [] then none else finish l rest := by
  rw [newJid, splitFirst_at_first '@' rest l h, if_neg (by simp), afterAt]
  by_cases hl : l = [] <;> by_cases hr : rest = [] <;> simp [hl, hr]

private theorem finish_some {n d0 : List Char} {j : Jid} (h : finish n d0 = some j) :
    j.node = n ∧ isUsernameValid n = true ∧ isDomainValid j.domain = true ∧ ∀ c ∈ j.resource, c ∈ d0 := by
  -- on either shape of the domain field `finish` answers by the same test, with a resource taken from the field
  have hshape : ∃ d r, (finish n d0 = if isUsernameValid n && isDomainValid d then some ⟨n, d, r⟩ else none) ∧
      ∀ c ∈ r, c ∈ d0 := by
    rcases first_cut '/' d0 with hs | ⟨d, r, rfl, hd⟩
    · exact ⟨d0, [], finish_noslash n d0 hs, nofun⟩
    · exact ⟨d, r, finish_cut n d r hd, fun c hc => by simp [hc]⟩
  obtain ⟨d, r, hfin, hres⟩ := hshape
  rw [hfin] at h
  split at h
  · rename_i hvalid
    rw [Bool.and_eq_true] at hvalid
    cases h
    exact ⟨rfl, hvalid.1, hvalid.2, hres⟩
  · cases h

/-- **Parsing yields exactly the three parts**: for a valid (possibly empty) local part, a valid non-empty domain
and ANY resource (it may contain '/' and '@'), outside the excluded region (`l ≠ [] ∨ '@' ∉ r`). -/
theorem C15_parse_parts (l d r : List Char) (hl : isUsernameValid l = true) (hd : isDomainValid d = true)
    (hx : l ≠ [] ∨ '@' ∉ r) : newJid (render l d r) = some ⟨l, d, r⟩ := by
  obtain ⟨hdne, hdat, hdsl⟩ := dom_parts hd
  have hfin : finish l (d ++ slash r) = some ⟨l, d, r⟩ := by simp [finish_slash l d r hdsl, hl, hd]
  have hrend : render l d r = (if l = [] then d else l ++ '@' :: d) ++ slash r := rfl
  by_cases hle : l = []
  · subst hle
    have hno : '@' ∉ d ++ slash r := by
      unfold slash; split <;> simp [hdat, hx.resolve_left (fun h => h rfl)]
    rw [hrend, if_pos rfl, newJid_noat _ hno, if_neg (by simp [hdne]), hfin]
  · rw [hrend, if_neg hle, List.append_assoc, List.cons_append,
      newJid_at l _ (user_no_at hl), if_neg (by simp [hle, hdne]), hfin]

theorem C15_ok_inv (s : List Char) (j : Jid) (h : newJid s = some j) :
    isUsernameValid j.node = true ∧ isDomainValid j.domain = true ∧ (j.node ≠ [] ∨ '@' ∉ j.resource) := by
  rcases first_cut '@' s with hat | ⟨l, rest, rfl, hl⟩
  · rw [newJid_noat s hat] at h
    split at h
    · cases h
    · obtain ⟨hn, hu, hd, hr⟩ := finish_some h
      exact ⟨hn ▸ hu, hd, .inr fun m => hat (hr _ m)⟩
  · rw [newJid_at l rest hl] at h
    split at h
    · cases h
    · rename_i hne
      obtain ⟨hn, hu, hd, _⟩ := finish_some h
      exact ⟨hn ▸ hu, hd, .inl (hn ▸ fun e => hne (.inl e))⟩

private theorem full_eq_render (j : Jid) : full j = render j.node j.domain j.resource := by
  unfold full bare render
  by_cases hr : j.resource = [] <;> by_cases hn : j.node = [] <;> simp [hr, hn]

private theorem bare_eq_render (j : Jid) : bare j = render j.node j.domain [] := by
  unfold bare render
  by_cases hn : j.node = [] <;> simp [hn]

/-- **Full() round trip**, including a domain JID that has a resource. -/
theorem C15_full_rt (s : List Char) (j : Jid) (h : newJid s = some j) : newJid (full j) = some j := by
  obtain ⟨h1, h2, h3⟩ := C15_ok_inv s j h
  rw [full_eq_render]; exact C15_parse_parts _ _ _ h1 h2 h3

/-- **Bare() round trip**: the same JID without its resource. -/
theorem C15_bare_rt (s : List Char) (j : Jid) (h : newJid s = some j) :
    newJid (bare j) = some { j with resource := [] } := by
  obtain ⟨h1, h2, _⟩ := C15_ok_inv s j h
  rw [bare_eq_render]; exact C15_parse_parts _ _ _ h1 h2 (Or.inr (by simp))

theorem C15_rejects_empty : newJid [] = none := rfl

theorem C15_rejects_empty_local (t : List Char) : newJid ('@' :: t) = none := by
  simpa using newJid_at [] t (by simp)

theorem C15_rejects_bad_local (l rest : List Char) (hl : '@' ∉ l) (hbad : isUsernameValid l = false) :
    newJid (l ++ '@' :: rest) = none := by
  rw [newJid_at l rest hl]
  simp [finish, hbad]

theorem C15_rejects_bad_domain (l d r : List Char) (hl : '@' ∉ l) (hd : '/' ∉ d)
    (hbad : isDomainValid d = false) : newJid (l ++ '@' :: (d ++ slash r)) = none := by
  rw [newJid_at l _ hl, finish_slash l d r hd]
  simp [hbad]

theorem C15_rejects_empty_domain (l r : List Char) (hl : '@' ∉ l) :
    newJid (l ++ '@' :: slash r) = none :=
  C15_rejects_bad_domain l [] r hl List.not_mem_nil rfl

theorem C15_rejects_bad_domain_nolocal (d r : List Char) (hd : '/' ∉ d) (hd2 : '@' ∉ d) (hr : '@' ∉ r)
    (hbad : isDomainValid d = false) : newJid (d ++ slash r) = none := by
  have hno : '@' ∉ d ++ slash r := by unfold slash; split <;> simp [hd2, hr]
  rw [newJid_noat _ hno, finish_slash [] d r hd]
  simp [hbad]

/-- **The library's '@'-first parser equals the RFC-order reference parser** on every string outside the excluded
region (a '/' before the first '@'): same acceptance, same three parts. -/
theorem C15_agrees_ref (s : List Char) (h : excluded s = false) : newJid s = refParse s := by
  unfold refParse
  rcases first_cut '@' s with hat | ⟨l, rest, rfl, hl⟩
  · rw [newJid_noat s hat]
    rcases first_cut '/' s with hsl | ⟨d, r, rfl, hd⟩
    · -- neither separator: the whole string is the domain for both parsers
      simp [finish_noslash [] s hsl,
        splitFirst_of_not_mem _ s hsl, splitFirst_of_not_mem _ s hat, isUsernameValid]
    · -- `d/r` without '@': both take `d` for the domain
      have hdat : '@' ∉ d := fun m => hat (by simp [m])
      simp [finish_cut [] d r hd,
        splitFirst_at_first _ r d hd, splitFirst_of_not_mem _ d hdat, isUsernameValid]
  · -- not excluded: no '/' before the first '@', so cutting the resource first leaves head = local ++ '@' :: domain
    have hsl : '/' ∉ l := by
      intro m; simp [excluded, splitFirst_at_first '@' rest l hl, m] at h
    have hcut := splitFirst_skip '/' ('@' :: rest) l hsl
    simp only [splitFirst, Char.reduceEq, if_false] at hcut
    rw [newJid_at l rest hl, if_neg (show l ++ '@' :: rest ≠ [] by simp), hcut]
    simp only [splitFirst_at_first '@' _ l hl, finish]
    -- an empty domain field is rejected on the left by its own test, on the right as an invalid domain
    by_cases h2 : rest = []
    · subst h2; simp [splitFirst, isDomainValid]
    · cases isUsernameValid l <;> cases isDomainValid (splitFirst '/' rest).1 <;> simp [h2]

/-- The oracle accepts the model on every non-excluded string (and trivially on excluded ones). -/
theorem C15_oracle_accepts_model (s : List Char) :
    holds s (match newJid s with
             | none => .err
             | some j => .ok j (full j) (bare j) (newJid (full j)) (newJid (bare j))) = true := by
  unfold holds
  by_cases he : excluded s = true
  · simp [he]
  · have he' : excluded s = false := by simpa using he
    rw [if_neg he, ← C15_agrees_ref s he']
    cases hj : newJid s with
    | none => rfl
    | some j => simp [C15_full_rt s j hj, C15_bare_rt s j hj]

-- non-vacuity / concrete shapes, incl. the fixed defect F-15 (domain JID with a resource)
example : newJid "example.com/res".toList = some ⟨[], "example.com".toList, "res".toList⟩ := by
  -- the kernel decodes a string literal through its UTF-8 bytes, quadratically; this hands it the character list
  repeat rw [String.toList_ofList]
  decide +kernel
example : full ⟨[], "example.com".toList, "res".toList⟩ = "example.com/res".toList := by
  repeat rw [String.toList_ofList]
  decide +kernel
example : newJid "a@b/c/d@e".toList = some ⟨"a".toList, "b".toList, "c/d@e".toList⟩ := by
  repeat rw [String.toList_ofList]
  decide +kernel
example : newJid "a b@c".toList = none := by
  repeat rw [String.toList_ofList]
  decide +kernel
example : excluded "d/r@x".toList = true ∧ excluded "a@b/c@d".toList = false := by
  repeat rw [String.toList_ofList]
  decide +kernel

end XmppVerif.Props.C15

#print axioms XmppVerif.Props.C15.C15_parse_parts
#print axioms XmppVerif.Props.C15.C15_ok_inv
#print axioms XmppVerif.Props.C15.C15_full_rt
#print axioms XmppVerif.Props.C15.C15_bare_rt
#print axioms XmppVerif.Props.C15.C15_rejects_empty
#print axioms XmppVerif.Props.C15.C15_rejects_empty_local
#print axioms XmppVerif.Props.C15.C15_rejects_empty_domain
#print axioms XmppVerif.Props.C15.C15_rejects_bad_local
#print axioms XmppVerif.Props.C15.C15_rejects_bad_domain
#print axioms XmppVerif.Props.C15.C15_rejects_bad_domain_nolocal
#print axioms XmppVerif.Props.C15.C15_agrees_ref
#print axioms XmppVerif.Props.C15.C15_oracle_accepts_model
