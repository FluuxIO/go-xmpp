import XmppVerif.Props.NegLemmas
/-
C14 at session level, over the negotiation model (`Model/Neg.lean`, the model of C03 / C04 / C11):
"a `<failure/>` reply is a permanent error and anything other than `<success/>` is never treated as authenticated".
-/
namespace XmppVerif.Props.C14Neg
open XmppVerif.Model.Neg XmppVerif.Spec.Neg XmppVerif.Props.Neg

/-- **Only `<success/>` authenticates, for every server behaviour and every configuration**: whenever the reply to
the client's `<auth/>` is anything else, `Client.connect` does not establish a session and the client writes nothing
after the `<auth/>` - no stream restart, no resumption, no bind on the unauthenticated stream. -/
theorem C14_session_only_success (cfg : Cfg) (s0 : Sess) (sc : Script) :
    authGateOk sc ((negotiate cfg s0 sc).outcome == .established) (negotiate cfg s0 sc).writes = true := by
  have h := negotiate_path cfg s0 sc
  generalize negotiate cfg s0 sc = r at h ⊢
  cases h with
  | go h1 _ => cases h1; simp [authGateOk, *]
  -- a reply other than `<success/>` ends the attempt at `authRefused`, whose last write is the `<auth/>`
  | stop h => path_leaves h <;> simp [authGateOk, *]

/-- **`<failure/>` is permanent**: if the client sent `<auth/>` and the server answered `<failure/>`, the connection
attempt ends with a permanent error (the StreamManager does not retry: C13). -/
theorem C14_session_failure_permanent (cfg : Cfg) (s0 : Sess) (sc : Script)
    (hf : sc.authReply = .failure) (hw : ((negotiate cfg s0 sc).writes.any (fun w => w.kind == .auth)) = true) :
    (negotiate cfg s0 sc).outcome = .failed true := by
  have h := negotiate_path cfg s0 sc
  generalize negotiate cfg s0 sc = r at h hw ⊢
  cases h with
  | go h1 _ => cases h1; simp_all
  -- `authRefused` is the only path that stops with an `<auth/>` written and a reply other than `<success/>`; its flag is the reply
  | stop h => path_leaves h <;> simp_all

/-- **Only an advertised mechanism is used; with no common mechanism nothing is sent** - at session level, for every
server script: an `<auth/>` is written only if the features in force at that moment (after the TLS restart when TLS
was negotiated) offer a mechanism the credential supports. A mechanism list remembered from an earlier stream or
connection does not count. -/
theorem C14_session_mech_gate (cfg : Cfg) (s0 : Sess) (sc : Script) :
    mechGateOk sc (negotiate cfg s0 sc).writes = true := by
  have h := negotiate_path cfg s0 sc
  generalize negotiate cfg s0 sc = r at h ⊢
  -- every path that writes `<auth/>` lies beyond the exit `noMech`: it has `fa.mech = true` for `featuresAtAuth sc = some fa`
  cases h with
  | go h1 _ => cases h1; simp [mechGateOk, *]
  | stop h => path_leaves h <;> simp [mechGateOk, *]

-- non-vacuity: a server that answers <failure/> and would go on answering
example : (negotiate ⟨true⟩ ⟨false, "", 0, "", false⟩
    { conn := .ok, feat1 := some ⟨false, true, false, false⟩, tlsReply := .proceed, tlsOk := true, open2 := true,
      feat2 := none, authReply := .failure, open3 := true, feat3 := some ⟨false, true, false, false⟩,
      resumeReply := .resumedSame, bindReply := .resultBind, sessReply := .result, enableReply := .enabled true,
      newSmId := "x", bindJid := "j" }).writes.map (·.kind) = [.open_, .auth] := by decide

end XmppVerif.Props.C14Neg

#print axioms XmppVerif.Props.C14Neg.C14_session_only_success
#print axioms XmppVerif.Props.C14Neg.C14_session_failure_permanent
#print axioms XmppVerif.Props.C14Neg.C14_session_mech_gate
