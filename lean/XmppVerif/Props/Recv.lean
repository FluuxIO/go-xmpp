import XmppVerif.Spec.Recv
/-
Theorems about the receive-loop model, shared by C05 / C09 / C12 (their Props files restate the ones they claim).
-/
namespace XmppVerif.Props.Recv
open XmppVerif.Model.Recv XmppVerif.Spec.Recv

/-- Everything the properties observe about a client run, as one record of equations. -/
structure ClientFacts (s : St) (ins : List In) : Prop where
  routed   : routedStanzas (clientRecv s ins).2 = (processed ins).filterMap stanzaOf
  answersE : answers (clientRecv s ins).2 = refAnswers s.inbound (processed ins)
  inbound  : (clientRecv s ins).1.inbound = s.inbound + stanzaCount (processed ins)
  smId     : (clientRecv s ins).1.smId = s.smId
  disc     : discEvents (clientRecv s ins).2 = [(s.smId, s.inbound + stanzaCount (processed ins))]
  errh     : errhCount (clientRecv s ins).2 =
               serrCount (processed ins) + (if isClose (stopper ins) then 0 else 1)
  /-- the keepalive's quit channel is closed - exactly once - and no Disconnected event is raised before that -/
  quit     : ((clientRecv s ins).2.filter (· == .quitClosed)).length = 1 ∧
               discEvents ((clientRecv s ins).2.takeWhile (· != .quitClosed)) = []

theorem routedStanzas_append (a b : List Act) : routedStanzas (a ++ b) = routedStanzas a ++ routedStanzas b :=
  List.filterMap_append

theorem routedAll_append (a b : List Act) : routedAll (a ++ b) = routedAll a ++ routedAll b :=
  List.filterMap_append

theorem answers_append (a b : List Act) : answers (a ++ b) = answers a ++ answers b :=
  List.filterMap_append

theorem discEvents_append (a b : List Act) : discEvents (a ++ b) = discEvents a ++ discEvents b :=
  List.filterMap_append

theorem errhCount_append (a b : List Act) : errhCount (a ++ b) = errhCount a + errhCount b := by
  rw [errhCount, List.filter_append, List.length_append]
  rfl

theorem routed_filter (acts : List Act) : (routedAll acts).filter (·.isStanza) = routedStanzas acts := by
  rw [routedAll, List.filter_filterMap, routedStanzas]
  congr 1
  funext a
  cases a <;> rfl

theorem processed_cons (i : In) (rest : List In) :
    processed (i :: rest) = if stops i then [] else i :: processed rest := by
  cases h : stops i <;> simp [processed, h]

theorem stopper_cons (i : In) (rest : List In) :
    stopper (i :: rest) = if stops i then some i else stopper rest := by
  cases h : stops i <;> simp [stopper, h]

theorem processed_stopper_append (pre rest : List In) (h : ∀ i ∈ pre, stops i = false) :
    processed (pre ++ rest) = pre ++ processed rest ∧ stopper (pre ++ rest) = stopper rest := by
  have hpre : ∀ i ∈ pre, (!stops i) = true := fun i hi => by rw [h i hi]; rfl
  exact ⟨List.takeWhile_append_of_pos hpre, by rw [stopper, List.dropWhile_append_of_pos hpre]; rfl⟩

theorem processed_stopper_append_stop (pre post : List In) (x : In) (h : ∀ i ∈ pre, stops i = false) (hx : stops x = true) :
    processed (pre ++ x :: post) = pre ∧ stopper (pre ++ x :: post) = some x := by
  obtain ⟨hp, hs⟩ := processed_stopper_append pre (x :: post) h
  rw [processed_cons, if_pos hx, List.append_nil] at hp
  rw [stopper_cons, if_pos hx] at hs
  exact ⟨hp, hs⟩

theorem processed_of_no_stop (pre : List In) (h : ∀ i ∈ pre, stops i = false) : processed pre = pre := by
  have hp := (processed_stopper_append pre [] h).1
  rwa [List.append_nil, show processed [] = [] from rfl, List.append_nil] at hp

theorem stanzaCount_cons (i : In) (l : List In) :
    stanzaCount (i :: l) = (if isStanzaIn i then 1 else 0) + stanzaCount l := by
  cases h : isStanzaIn i <;> simp [stanzaCount, h, Nat.add_comm]

theorem serrCount_cons (i : In) (l : List In) :
    serrCount (i :: l) = (if isSerr i then 1 else 0) + serrCount l := by
  cases h : isSerr i <;> simp [serrCount, h, Nat.add_comm]

theorem refAnswers_cons (n : Nat) (i : In) (l : List In) :
    refAnswers n (i :: l) =
      (if isReq i then [n] else []) ++ refAnswers (n + (if isStanzaIn i then 1 else 0)) l := by
  cases i with
  | cut => rfl
  | pkt p f => cases p <;> rfl

/-- `reqCount` counts only the requests whose answer could be written, `isReq` every request: they agree on an item
that does not stop the loop. -/
theorem reqCount_cons (i : In) (l : List In) (h : stops i = false) :
    reqCount (i :: l) = (if isReq i then 1 else 0) + reqCount l := by
  cases i with
  | cut => cases h
  | pkt p f =>
    cases p with
    | r =>
      cases f with
      | true => cases h
      | false => simp [reqCount, isReq, Nat.add_comm]
    | _ => simp [reqCount, isReq]

theorem clientRecv_cons (s : St) (i : In) (rest : List In) :
    clientRecv s (i :: rest) =
      if (clientStep s i).2.2 then
        ((clientRecv (clientStep s i).1 rest).1, (clientStep s i).2.1 ++ (clientRecv (clientStep s i).1 rest).2)
      else ((clientStep s i).1, (clientStep s i).2.1) := by
  simp only [clientRecv]

theorem clientStep_state (s : St) (i : In) :
    (clientStep s i).1 = ⟨s.smId, s.inbound + (if isStanzaIn i then 1 else 0)⟩ := by
  cases i with
  | cut => rfl
  | pkt p f => cases p <;> cases f <;> rfl

theorem clientStep_stop (s : St) (i : In) (h : stops i = true) :
    clientStep s i = (s, [.quitClosed, if isClose (some i) then .streamClose else .errh,
      .disconnected s.smId s.inbound], false) := by
  cases i with
  | cut => rfl
  | pkt p f => cases p <;> cases f <;> first | rfl | cases h

theorem clientStep_cont (s : St) (i : In) (h : stops i = false) :
    (clientStep s i).2.2 = true ∧
    routedStanzas (clientStep s i).2.1 = (stanzaOf i).toList ∧
    answers (clientStep s i).2.1 = (if isReq i then [s.inbound] else []) ∧
    discEvents (clientStep s i).2.1 = [] ∧
    errhCount (clientStep s i).2.1 = (if isSerr i then 1 else 0) ∧
    (clientStep s i).2.1.filter (· == .quitClosed) = [] := by
  cases i with
  | cut => cases h
  | pkt p f =>
    cases p with
    | close => cases h
    | r =>
      cases f with
      | true => cases h
      | false => exact ⟨rfl, rfl, rfl, rfl, rfl, rfl⟩
    | _ => exact ⟨rfl, rfl, rfl, rfl, rfl, rfl⟩

/-- The loop stops at once: a stopping item `o = some i` comes first, or the input is empty (`o = none`, reported
like a cut). The stopper is the variable `o`, so that a caller proves `hrun` by evaluating the one step. -/
private theorem client_facts_stop (s : St) (ins : List In) (o : Option In) (hp : processed ins = []) (hs : stopper ins = o)
    (hrun : clientRecv s ins =
      (s, [.quitClosed, if isClose o then .streamClose else .errh, .disconnected s.smId s.inbound])) :
    ClientFacts s ins := by
  subst hs
  constructor
  case smId => rw [hrun]
  case quit =>
    rw [hrun]
    cases isClose (stopper ins) <;> exact ⟨rfl, rfl⟩
  all_goals
    rw [hrun, hp]
    cases isClose (stopper ins) <;> rfl

/-- **All client-side facts hold for every inbound history and every starting state**: the log of a run is the
concatenation of the logs of its steps, and every observation and every reference function distributes over that. -/
theorem client_facts (ins : List In) : ∀ s : St, ClientFacts s ins := by
  induction ins with
  | nil => exact fun s => client_facts_stop s [] none rfl rfl rfl
  | cons i rest ih =>
    intro s
    cases hstop : stops i with
    | true =>
      refine client_facts_stop s _ (some i) ?_ ?_ ?_
      · rw [processed_cons, hstop]; rfl
      · rw [stopper_cons, hstop]; rfl
      · rw [clientRecv_cons, clientStep_stop s i hstop]; rfl
    | false =>
      obtain ⟨hcont, hr, ha, hd, he, hq⟩ := clientStep_cont s i hstop
      have hrun : clientRecv s (i :: rest) = ((clientRecv (clientStep s i).1 rest).1,
          (clientStep s i).2.1 ++ (clientRecv (clientStep s i).1 rest).2) := by
        rw [clientRecv_cons, hcont]; rfl
      have hp : processed (i :: rest) = i :: processed rest := by rw [processed_cons, hstop]; rfl
      have hst : stopper (i :: rest) = stopper rest := by rw [stopper_cons, hstop]; rfl
      have f := ih (clientStep s i).1
      rw [clientStep_state] at f hrun
      constructor
      · rw [hrun, hp, routedStanzas_append, hr, f.routed, List.filterMap_cons]
        cases stanzaOf i <;> rfl
      · rw [hrun, hp, answers_append, ha, f.answersE, refAnswers_cons]
      · rw [hrun, hp, f.inbound, stanzaCount_cons, Nat.add_assoc]
      · rw [hrun, f.smId]
      · rw [hrun, hp, discEvents_append, hd, f.disc, stanzaCount_cons, List.nil_append, Nat.add_assoc]
      · rw [hrun, hp, hst, errhCount_append, he, f.errh, serrCount_cons, Nat.add_assoc]
      · rw [hrun]
        have hne : ∀ a ∈ (clientStep s i).2.1, (a != Act.quitClosed) = true := by
          intro a ha
          simpa using List.filter_eq_nil_iff.mp hq a ha
        refine ⟨?_, ?_⟩
        · rw [List.filter_append, hq, List.nil_append]; exact f.quit.1
        · rw [List.takeWhile_append_of_pos hne, discEvents_append, hd]
          exact f.quit.2

theorem processedC_cons (i : In) (rest : List In) :
    processedC (i :: rest) = if stopsC i then [] else i :: processedC rest := by
  cases h : stopsC i <;> simp [processedC, h]

theorem stopperC_cons (i : In) (rest : List In) :
    stopperC (i :: rest) = if stopsC i then some i else stopperC rest := by
  cases h : stopsC i <;> simp [stopperC, h]

theorem componentRecv_cons (i : In) (rest : List In) :
    componentRecv (i :: rest) =
      if (componentStep i).2 then (componentStep i).1 ++ componentRecv rest else (componentStep i).1 := by
  simp only [componentRecv]

theorem componentStep_stop (i : In) (h : stopsC i = true) :
    componentStep i = (if isClose (some i) then [.streamClose] else [.disconnected "" 0, .errh], false) := by
  cases i with
  | cut => rfl
  | pkt p f => cases p <;> first | rfl | cases h

theorem componentStep_cont (i : In) (h : stopsC i = false) :
    (componentStep i).2 = true ∧ routedAll (componentStep i).1 = routesOfC i ∧
    discEvents (componentStep i).1 = [] ∧ errhCount (componentStep i).1 = (if isSerr i then 1 else 0) := by
  cases i with
  | cut => cases h
  | pkt p f => cases p <;> first | exact ⟨rfl, rfl, rfl, rfl⟩ | cases h

/-- What the properties observe about a component run (it keeps no stream-management state). -/
structure ComponentFacts (ins : List In) : Prop where
  routed : routedAll (componentRecv ins) = (processedC ins).flatMap routesOfC
  disc   : discEvents (componentRecv ins) = (if isClose (stopperC ins) then [] else [("", 0)])
  errh   : errhCount (componentRecv ins) = serrCount (processedC ins) + (if isClose (stopperC ins) then 0 else 1)

private theorem component_facts_stop (ins : List In) (o : Option In) (hp : processedC ins = []) (hs : stopperC ins = o)
    (hrun : componentRecv ins = if isClose o then [.streamClose] else [.disconnected "" 0, .errh]) :
    ComponentFacts ins := by
  subst hs
  constructor
  case disc =>
    rw [hrun]
    cases isClose (stopperC ins) <;> rfl
  all_goals
    rw [hrun, hp]
    cases isClose (stopperC ins) <;> rfl

/-- Component: every packet before the stop is routed, in arrival order (a stream error twice), and the loss is
reported once (state change + one error callback) unless the server closed the stream. -/
theorem component_facts (ins : List In) : ComponentFacts ins := by
  induction ins with
  | nil => exact component_facts_stop [] none rfl rfl rfl
  | cons i rest ih =>
    cases hstop : stopsC i with
    | true =>
      refine component_facts_stop _ (some i) ?_ ?_ ?_
      · rw [processedC_cons, hstop]; rfl
      · rw [stopperC_cons, hstop]; rfl
      · rw [componentRecv_cons, componentStep_stop i hstop]; rfl
    | false =>
      obtain ⟨hcont, hr, hd, he⟩ := componentStep_cont i hstop
      have hrun : componentRecv (i :: rest) = (componentStep i).1 ++ componentRecv rest := by
        rw [componentRecv_cons, hcont]; rfl
      have hp : processedC (i :: rest) = i :: processedC rest := by rw [processedC_cons, hstop]; rfl
      have hst : stopperC (i :: rest) = stopperC rest := by rw [stopperC_cons, hstop]; rfl
      constructor
      · rw [hrun, hp, routedAll_append, hr, ih.routed, List.flatMap_cons]
      · rw [hrun, hst, discEvents_append, hd, ih.disc, List.nil_append]
      · rw [hrun, hp, hst, errhCount_append, he, ih.errh, serrCount_cons, Nat.add_assoc]

end XmppVerif.Props.Recv

#print axioms XmppVerif.Props.Recv.client_facts
#print axioms XmppVerif.Props.Recv.component_facts
