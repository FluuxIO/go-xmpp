import XmppVerif.Spec.C10
/-
C10 - stream management: sent stanzas are held until acknowledged and retransmitted in order.
-/
namespace XmppVerif.Props.C10
open XmppVerif.Model.C17 (Q QS Entry pushS nextIdS)
open XmppVerif.Model.C10 XmppVerif.Spec.C10

def mkQ (s : Nat) : List String → Q
  | [] => []
  | x :: xs => ⟨s, x⟩ :: mkQ (s + 1) xs

private theorem mkQ_append (a b : List String) : ∀ s, mkQ s (a ++ b) = mkQ s a ++ mkQ (s + a.length) b := by
  induction a with
  | nil => intro s; simp [mkQ]
  | cons x xs ih => intro s; simp [mkQ, ih, Nat.add_assoc, Nat.add_comm 1]

private theorem mkQ_stz (l : List String) : ∀ s, (mkQ s l).map (·.stz) = l := by
  induction l with
  | nil => intro s; rfl
  | cons x xs ih => intro s; simp [mkQ, ih]

private theorem nextIdS_mkQ (s n : Nat) (l : List String) :
    nextIdS ⟨mkQ s l, n⟩ = if l = [] then n + 1 else s + l.length := by
  rcases List.eq_nil_or_concat l with rfl | ⟨l', x, rfl⟩
  · rfl
  · rw [List.concat_eq_append, nextIdS, mkQ_append, if_neg (by simp)]
    simp only [mkQ, List.getLast?_concat, List.length_append, List.length_cons, List.length_nil]
    omega

private theorem dropAcked_mkQ (h : Nat) (l : List String) : ∀ d,
    dropAcked h (mkQ (d + 1) l) = mkQ (d + min (h - d) l.length + 1) (l.drop (min (h - d) l.length)) := by
  induction l with
  | nil => intro d; simp [mkQ, dropAcked]
  | cons x xs ih =>
    intro d
    simp only [mkQ, dropAcked, List.length_cons]
    by_cases hs : d + 1 ≤ h
    · have e : min (h - d) (xs.length + 1) = min (h - (d + 1)) xs.length + 1 := by omega
      rw [if_pos hs, ih (d + 1), e, List.drop_succ_cons]
      congr 1
      omega
    · have e : min (h - d) (xs.length + 1) = 0 := by omega
      rw [if_neg hs, e]
      rfl

private theorem ids_mkQ (l : List String) : ∀ s, idsIncreasing ((mkQ s l).map (·.id)) = true := by
  induction l with
  | nil => intro s; rfl
  | cons x xs ih =>
    intro s
    cases xs with
    | nil => rfl
    | cons y ys =>
      have := ih (s + 1)
      simp only [mkQ, List.map_cons, idsIncreasing, Bool.and_eq_true, decide_eq_true_eq] at this ⊢
      exact ⟨by omega, this⟩

/-- The invariant tying the queue to the reference: the queue holds exactly the un-delivered suffix of the accepted
stanzas, numbered by their position on the session, and the counter equals the number accepted. -/
def Inv (st : St) (r : Ref) : Prop :=
  st.q = mkQ (r.delivered + 1) r.held ∧ st.lastId = r.accepted.length ∧ r.delivered ≤ r.accepted.length

theorem C10_inv_init : Inv ⟨[], 0⟩ ⟨[], 0⟩ := by simp [Inv, Ref.held, mkQ]

private theorem held_length (r : Ref) : r.held.length = r.accepted.length - r.delivered := List.length_drop

private theorem push_inv (st : St) (r : Ref) (b : String) (h : Inv st r) :
    Inv (pushS st b) { r with accepted := r.accepted ++ [b] } := by
  obtain ⟨hq, hl, hd⟩ := h
  have hlen := held_length r
  have hheld : ({ r with accepted := r.accepted ++ [b] } : Ref).held = r.held ++ [b] :=
    List.drop_append_of_le_length hd
  have hnext : nextIdS st = r.accepted.length + 1 := by
    show nextIdS ⟨st.q, st.lastId⟩ = _
    rw [hq, hl, nextIdS_mkQ]
    split
    · rfl
    · next hne =>
      have := List.length_pos_iff.mpr hne
      omega
  refine ⟨?_, ?_, ?_⟩
  · simp only [pushS]
    rw [hheld, mkQ_append, hq, hnext]
    simp only [mkQ]
    -- what is left is the number of the pushed entry: position on the session = number accepted + 1
    congr 3
    omega
  · simp [pushS, hnext]
  · simp only [List.length_append, List.length_cons, List.length_nil]
    omega

/-- an acknowledgement refines the reference (whether or not the retransmission can be written) -/
theorem C10_ack_refines (st : St) (r : Ref) (a : Nat) (h : Inv st r) :
    (step st (.ack a)).2 = (refStep r (.ack a)).2 ∧ Inv (step st (.ack a)).1 (refStep r (.ack a)).1 := by
  obtain ⟨hq, hl, hd⟩ := h
  -- the entries dropped are those by which the reference moves `delivered` forward
  have hk : r.delivered + min (a - r.delivered) r.held.length = max r.delivered (min a r.accepted.length) := by
    rw [held_length]; omega
  have hdrop : dropAcked a st.q = mkQ (max r.delivered (min a r.accepted.length) + 1)
      (r.accepted.drop (max r.delivered (min a r.accepted.length))) := by
    rw [hq, dropAcked_mkQ, hk]
    congr 1
    rw [← hk, Ref.held, List.drop_drop]
  simp only [step, refStep]
  rw [hdrop]
  refine ⟨?_, ?_, hl, ?_⟩
  · rw [← List.isEmpty_map (f := (·.stz)), mkQ_stz]
    rfl
  · simp [Ref.held]
  · show max r.delivered (min a r.accepted.length) ≤ r.accepted.length
    omega

/-- **One step refines the reference**: same writes, and the invariant is preserved, for every operation. -/
theorem C10_step_refines (st : St) (r : Ref) (op : Op) (h : Inv st r) :
    (step st op).2 = (refStep r op).2 ∧ Inv (step st op).1 (refStep r op).1 := by
  cases op with
  | sendStanza b | sendRaw b | sendFail b => exact ⟨rfl, push_inv st r b h⟩
  | sendNonza _ | req _ | inbound | resumed => exact ⟨rfl, h⟩
  | ack a => exact C10_ack_refines st r a h
  | ackFail a => exact ⟨rfl, (C10_ack_refines st r a h).2⟩
  | freshSession => exact ⟨rfl, C10_inv_init⟩

/-- **Refinement for every outbound history**: whatever sequence of Send / SendRaw / `<r/>` / `<a/>` sends and
acknowledgements with any h (below, equal to or above the number sent, repeated, stale), the writes are those of
the reference and the invariant holds at the end. -/
theorem C10_refines (ops : List Op) : ∀ (st : St) (r : Ref), Inv st r →
    (run st ops).2 = (refRun r ops).2 ∧ Inv (run st ops).1 (refRun r ops).1 := by
  induction ops with
  | nil => intro st r h; exact ⟨rfl, h⟩
  | cons op ops ih =>
    intro st r h
    obtain ⟨hw, hi⟩ := C10_step_refines st r op h
    obtain ⟨h1, h2⟩ := ih (step st op).1 (refStep r op).1 hi
    simp only [run, refRun]
    exact ⟨by rw [hw, h1], h2⟩

/-- From a fresh session: every history refines the reference. -/
theorem C10_refines_fresh (ops : List Op) :
    (run ⟨[], 0⟩ ops).2 = (refRun ⟨[], 0⟩ ops).2 ∧ Inv (run ⟨[], 0⟩ ops).1 (refRun ⟨[], 0⟩ ops).1 :=
  C10_refines ops _ _ C10_inv_init

/-- Held stanzas are exactly the accepted ones not yet delivered (read off the invariant). -/
theorem C10_held_exact (st : St) (r : Ref) (h : Inv st r) : st.q.map (·.stz) = r.accepted.drop r.delivered := by
  rw [h.1, mkQ_stz]; rfl

/-- An acknowledgement discards exactly the stanzas up to min(h, sent), never fewer than already delivered. -/
theorem C10_ack_drops_exactly (r : Ref) (a : Nat) :
    (refStep r (.ack a)).1.delivered = max r.delivered (min a r.accepted.length) ∧
    (refStep r (.ack a)).1.accepted = r.accepted := ⟨rfl, rfl⟩

/-- Retransmission: what is still held goes out in original order followed by exactly one `<r/>`; nothing is
written when nothing is held. -/
theorem C10_retransmit_in_order_then_r (st : St) (r : Ref) (a : Nat) (h : Inv st r) :
    (step st (.ack a)).2 =
      (if (r.accepted.drop (max r.delivered (min a r.accepted.length))).isEmpty then []
       else r.accepted.drop (max r.delivered (min a r.accepted.length)) ++ [rBytes]) := by
  rw [(C10_ack_refines st r a h).1]
  rfl

/-- Acknowledgement requests and answers are written but never held or counted. -/
theorem C10_nonza_never_held (st : St) (b : String) : (step st (.sendNonza b)) = (st, [b]) := rfl

/-- The answer to the server's `<r/>` is written but never held or counted either (it goes through `Send` as an
`SMAnswer`, not through the storing path). -/
theorem C10_answer_never_held (st : St) (b : String) : (step st (.req b)) = (st, [b]) := rfl

/-- The run-time oracle accepts one step of the model from any state that `Inv` relates to the reference - by
`C10_refines`, every step of every history. -/
theorem C10_oracle_accepts_model (st : St) (r : Ref) (op : Op) (h : Inv st r) :
    (holdsStep r op ⟨(step st op).2, (step st op).1.q⟩).1 = true := by
  obtain ⟨hw, hi⟩ := C10_step_refines st r op h
  have h1 := C10_held_exact _ _ hi
  have h2 : idsIncreasing ((step st op).1.q.map (·.id)) = true := by rw [hi.1]; exact ids_mkQ _ _
  cases op with
  | sendFail b =>
    simp only [holdsStep, Bool.and_eq_true, Bool.or_eq_true, decide_eq_true_eq]
    exact ⟨⟨hw, Or.inl h1⟩, h2⟩
  | _ =>
    simp only [holdsStep, Bool.and_eq_true, decide_eq_true_eq]
    exact ⟨⟨hw, h1⟩, h2⟩

/-- A session enabled anew after a refused resumption starts empty and numbers from 1 again, whatever the old session
held. -/
theorem C10_fresh_session_starts_empty (st : St) (b : String) :
    (run st [.freshSession, .sendRaw b, .ack 1]).2 = [[], [b], []] ∧
    (run st [.freshSession, .sendRaw b]).1 = ⟨[⟨1, b⟩], 1⟩ := by
  exact ⟨rfl, rfl⟩

/-- a confirmed resumption keeps everything -/
theorem C10_resumed_keeps_held (st : St) : (step st .resumed) = (st, []) := rfl

-- non-vacuity: the design's witness history [sendRaw x, sendRaw y, ack 1] retransmits y only, then <r/>
example : (run ⟨[], 0⟩ [.sendRaw "x", .sendRaw "y", .ack 1]).2 = [["x"], ["y"], ["y", rBytes]] := by decide
example : (run ⟨[], 0⟩ [.sendRaw "x", .sendRaw "y", .ack 1]).1 = ⟨[⟨2, "y"⟩], 2⟩ := by decide
-- a stale acknowledgement after the queue was drained drops nothing that is newer
example : (run ⟨[], 0⟩ [.sendRaw "x", .ack 1, .sendRaw "y", .ack 1]).1 = ⟨[⟨2, "y"⟩], 2⟩ := by decide
example : (run ⟨[], 0⟩ [.sendRaw "x", .ack 7, .sendNonza "r", .ack 0]).2 = [["x"], [], ["r"], []] := by decide

end XmppVerif.Props.C10

#print axioms XmppVerif.Props.C10.C10_inv_init
#print axioms XmppVerif.Props.C10.C10_step_refines
#print axioms XmppVerif.Props.C10.C10_refines
#print axioms XmppVerif.Props.C10.C10_refines_fresh
#print axioms XmppVerif.Props.C10.C10_held_exact
#print axioms XmppVerif.Props.C10.C10_ack_drops_exactly
#print axioms XmppVerif.Props.C10.C10_retransmit_in_order_then_r
#print axioms XmppVerif.Props.C10.C10_nonza_never_held
#print axioms XmppVerif.Props.C10.C10_answer_never_held
#print axioms XmppVerif.Props.C10.C10_oracle_accepts_model
#print axioms XmppVerif.Props.C10.C10_fresh_session_starts_empty
#print axioms XmppVerif.Props.C10.C10_resumed_keeps_held
