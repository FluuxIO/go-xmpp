import XmppVerif.Props.C01Schema
import XmppVerif.Props.C01SchemaWf
/-
C01, schema-coded types: the generic theorems instantiated. `C01_roundtrip_modelled` covers every struct type of
stanza/ reachable from the registry whose schema is well-formed (`modelled`, 69 types; the list is fixed by name in
Tie/C01Schema.lean); below it one named instance per REGISTERED type among them (26), `Ty.wf` read off the table evaluated
in Props/C01SchemaWf.lean.
Delegation: the class has `Forwarded = nil` (Forwarded has a hand-written UnmarshalXML).
PubSubGeneric: Item.Any (`,any` *Node) holds a tree of the exact class of the Node theorems (every element with its own
namespace, no namespaced attribute) whose root name no field of Item takes; Form.Reported / Form.Items (dynamic
XMLName) hold the name the decoder stores, ⟨"", field name⟩.
MucPresence: History (hand-written MarshalXML / UnmarshalXML, a leaf of the schema type) with `Since` the zero time.
-/
namespace XmppVerif.Props.C01S
open XmppVerif.Model.C01
open XmppVerif.Model.C01S XmppVerif.Spec.C01 XmppVerif.Spec.C01S

theorem modelled_wf {name : String} {s : Ty} (hm : (name, s) ∈ modelled) : Ty.wf s = true := by
  simpa using (List.mem_filter.mp hm).2

theorem C01_roundtrip_modelled (name : String) (s : Ty) (hm : (name, s) ∈ modelled) (ctx : Str) (v : Val)
    (rest : List Tok) (hv : v.fits s = true) : unmarshalS s (marshalS ctx s v ++ rest) = some (v, rest) :=
  C01_schema_roundtrip ctx s v rest (modelled_wf hm) hv

theorem C01_structure_modelled (name : String) (s : Ty) (hm : (name, s) ∈ modelled) (c : Char)
    (hc : c = '<' ∨ c = '>') (v : Val) (hv : v.namesOk = true) : count c (bytesS s v) = 2 * elemCountL (encS s v) :=
  C01_schema_structure c hc s v (modelled_wf hm) hv

theorem C01_roundtrip_Delegation (ctx : Str) (v : Val) (rest : List Tok) (hv : v.fits tyDelegation = true) :
    unmarshalS tyDelegation (marshalS ctx tyDelegation v ++ rest) = some (v, rest) :=
  C01_schema_roundtrip ctx _ v rest (wf_at 4 rfl (by decide +kernel)) hv
theorem C01_roundtrip_DiscoInfo (ctx : Str) (v : Val) (rest : List Tok) (hv : v.fits tyDiscoInfo = true) :
    unmarshalS tyDiscoInfo (marshalS ctx tyDiscoInfo v ++ rest) = some (v, rest) :=
  C01_schema_roundtrip ctx _ v rest (wf_at 9 rfl (by decide +kernel)) hv
theorem C01_roundtrip_DiscoItems (ctx : Str) (v : Val) (rest : List Tok) (hv : v.fits tyDiscoItems = true) :
    unmarshalS tyDiscoItems (marshalS ctx tyDiscoItems v ++ rest) = some (v, rest) :=
  C01_schema_roundtrip ctx _ v rest (wf_at 11 rfl (by decide +kernel)) hv
theorem C01_roundtrip_Roster (ctx : Str) (v : Val) (rest : List Tok) (hv : v.fits tyRoster = true) :
    unmarshalS tyRoster (marshalS ctx tyRoster v ++ rest) = some (v, rest) :=
  C01_schema_roundtrip ctx _ v rest (wf_at 12 rfl (by decide +kernel)) hv
theorem C01_roundtrip_RosterItems (ctx : Str) (v : Val) (rest : List Tok) (hv : v.fits tyRosterItems = true) :
    unmarshalS tyRosterItems (marshalS ctx tyRosterItems v ++ rest) = some (v, rest) :=
  C01_schema_roundtrip ctx _ v rest (wf_at 14 rfl (by decide +kernel)) hv
theorem C01_roundtrip_Version (ctx : Str) (v : Val) (rest : List Tok) (hv : v.fits tyVersion = true) :
    unmarshalS tyVersion (marshalS ctx tyVersion v ++ rest) = some (v, rest) :=
  C01_schema_roundtrip ctx _ v rest (wf_at 15 rfl (by decide +kernel)) hv
theorem C01_roundtrip_Markable (ctx : Str) (v : Val) (rest : List Tok) (hv : v.fits tyMarkable = true) :
    unmarshalS tyMarkable (marshalS ctx tyMarkable v ++ rest) = some (v, rest) :=
  C01_schema_roundtrip ctx _ v rest (wf_at 16 rfl (by decide +kernel)) hv
theorem C01_roundtrip_MarkReceived (ctx : Str) (v : Val) (rest : List Tok) (hv : v.fits tyMarkReceived = true) :
    unmarshalS tyMarkReceived (marshalS ctx tyMarkReceived v ++ rest) = some (v, rest) :=
  C01_schema_roundtrip ctx _ v rest (wf_at 17 rfl (by decide +kernel)) hv
theorem C01_roundtrip_MarkDisplayed (ctx : Str) (v : Val) (rest : List Tok) (hv : v.fits tyMarkDisplayed = true) :
    unmarshalS tyMarkDisplayed (marshalS ctx tyMarkDisplayed v ++ rest) = some (v, rest) :=
  C01_schema_roundtrip ctx _ v rest (wf_at 18 rfl (by decide +kernel)) hv
theorem C01_roundtrip_MarkAcknowledged (ctx : Str) (v : Val) (rest : List Tok) (hv : v.fits tyMarkAcknowledged = true) :
    unmarshalS tyMarkAcknowledged (marshalS ctx tyMarkAcknowledged v ++ rest) = some (v, rest) :=
  C01_schema_roundtrip ctx _ v rest (wf_at 19 rfl (by decide +kernel)) hv
theorem C01_roundtrip_StateActive (ctx : Str) (v : Val) (rest : List Tok) (hv : v.fits tyStateActive = true) :
    unmarshalS tyStateActive (marshalS ctx tyStateActive v ++ rest) = some (v, rest) :=
  C01_schema_roundtrip ctx _ v rest (wf_at 20 rfl (by decide +kernel)) hv
theorem C01_roundtrip_StateComposing (ctx : Str) (v : Val) (rest : List Tok) (hv : v.fits tyStateComposing = true) :
    unmarshalS tyStateComposing (marshalS ctx tyStateComposing v ++ rest) = some (v, rest) :=
  C01_schema_roundtrip ctx _ v rest (wf_at 21 rfl (by decide +kernel)) hv
theorem C01_roundtrip_StateGone (ctx : Str) (v : Val) (rest : List Tok) (hv : v.fits tyStateGone = true) :
    unmarshalS tyStateGone (marshalS ctx tyStateGone v ++ rest) = some (v, rest) :=
  C01_schema_roundtrip ctx _ v rest (wf_at 22 rfl (by decide +kernel)) hv
theorem C01_roundtrip_StateInactive (ctx : Str) (v : Val) (rest : List Tok) (hv : v.fits tyStateInactive = true) :
    unmarshalS tyStateInactive (marshalS ctx tyStateInactive v ++ rest) = some (v, rest) :=
  C01_schema_roundtrip ctx _ v rest (wf_at 23 rfl (by decide +kernel)) hv
theorem C01_roundtrip_StatePaused (ctx : Str) (v : Val) (rest : List Tok) (hv : v.fits tyStatePaused = true) :
    unmarshalS tyStatePaused (marshalS ctx tyStatePaused v ++ rest) = some (v, rest) :=
  C01_schema_roundtrip ctx _ v rest (wf_at 24 rfl (by decide +kernel)) hv
theorem C01_roundtrip_HintNoPermanentStore (ctx : Str) (v : Val) (rest : List Tok) (hv : v.fits tyHintNoPermanentStore = true) :
    unmarshalS tyHintNoPermanentStore (marshalS ctx tyHintNoPermanentStore v ++ rest) = some (v, rest) :=
  C01_schema_roundtrip ctx _ v rest (wf_at 25 rfl (by decide +kernel)) hv
theorem C01_roundtrip_HintNoStore (ctx : Str) (v : Val) (rest : List Tok) (hv : v.fits tyHintNoStore = true) :
    unmarshalS tyHintNoStore (marshalS ctx tyHintNoStore v ++ rest) = some (v, rest) :=
  C01_schema_roundtrip ctx _ v rest (wf_at 26 rfl (by decide +kernel)) hv
theorem C01_roundtrip_HintNoCopy (ctx : Str) (v : Val) (rest : List Tok) (hv : v.fits tyHintNoCopy = true) :
    unmarshalS tyHintNoCopy (marshalS ctx tyHintNoCopy v ++ rest) = some (v, rest) :=
  C01_schema_roundtrip ctx _ v rest (wf_at 27 rfl (by decide +kernel)) hv
theorem C01_roundtrip_HintStore (ctx : Str) (v : Val) (rest : List Tok) (hv : v.fits tyHintStore = true) :
    unmarshalS tyHintStore (marshalS ctx tyHintStore v ++ rest) = some (v, rest) :=
  C01_schema_roundtrip ctx _ v rest (wf_at 28 rfl (by decide +kernel)) hv
theorem C01_roundtrip_OOB (ctx : Str) (v : Val) (rest : List Tok) (hv : v.fits tyOOB = true) :
    unmarshalS tyOOB (marshalS ctx tyOOB v ++ rest) = some (v, rest) :=
  C01_schema_roundtrip ctx _ v rest (wf_at 31 rfl (by decide +kernel)) hv
theorem C01_roundtrip_ReceiptRequest (ctx : Str) (v : Val) (rest : List Tok) (hv : v.fits tyReceiptRequest = true) :
    unmarshalS tyReceiptRequest (marshalS ctx tyReceiptRequest v ++ rest) = some (v, rest) :=
  C01_schema_roundtrip ctx _ v rest (wf_at 33 rfl (by decide +kernel)) hv
theorem C01_roundtrip_ReceiptReceived (ctx : Str) (v : Val) (rest : List Tok) (hv : v.fits tyReceiptReceived = true) :
    unmarshalS tyReceiptReceived (marshalS ctx tyReceiptReceived v ++ rest) = some (v, rest) :=
  C01_schema_roundtrip ctx _ v rest (wf_at 34 rfl (by decide +kernel)) hv
theorem C01_roundtrip_Bind (ctx : Str) (v : Val) (rest : List Tok) (hv : v.fits tyBind = true) :
    unmarshalS tyBind (marshalS ctx tyBind v ++ rest) = some (v, rest) :=
  C01_schema_roundtrip ctx _ v rest (wf_at 56 rfl (by decide +kernel)) hv
theorem C01_roundtrip_StreamSession (ctx : Str) (v : Val) (rest : List Tok) (hv : v.fits tyStreamSession = true) :
    unmarshalS tyStreamSession (marshalS ctx tyStreamSession v ++ rest) = some (v, rest) :=
  C01_schema_roundtrip ctx _ v rest (wf_at 57 rfl (by decide +kernel)) hv
theorem C01_roundtrip_PubSubGeneric (ctx : Str) (v : Val) (rest : List Tok) (hv : v.fits tyPubSubGeneric = true) :
    unmarshalS tyPubSubGeneric (marshalS ctx tyPubSubGeneric v ++ rest) = some (v, rest) :=
  C01_schema_roundtrip ctx _ v rest (wf_at 54 rfl (by decide +kernel)) hv
theorem C01_roundtrip_MucPresence (ctx : Str) (v : Val) (rest : List Tok) (hv : v.fits tyMucPresence = true) :
    unmarshalS tyMucPresence (marshalS ctx tyMucPresence v ++ rest) = some (v, rest) :=
  C01_schema_roundtrip ctx _ v rest (wf_at 35 rfl (by decide +kernel)) hv

end XmppVerif.Props.C01S

#print axioms XmppVerif.Props.C01S.C01_roundtrip_modelled
#print axioms XmppVerif.Props.C01S.C01_structure_modelled
#print axioms XmppVerif.Props.C01S.C01_roundtrip_Delegation
#print axioms XmppVerif.Props.C01S.C01_roundtrip_DiscoInfo
#print axioms XmppVerif.Props.C01S.C01_roundtrip_DiscoItems
#print axioms XmppVerif.Props.C01S.C01_roundtrip_Roster
#print axioms XmppVerif.Props.C01S.C01_roundtrip_RosterItems
#print axioms XmppVerif.Props.C01S.C01_roundtrip_Version
#print axioms XmppVerif.Props.C01S.C01_roundtrip_Markable
#print axioms XmppVerif.Props.C01S.C01_roundtrip_MarkReceived
#print axioms XmppVerif.Props.C01S.C01_roundtrip_MarkDisplayed
#print axioms XmppVerif.Props.C01S.C01_roundtrip_MarkAcknowledged
#print axioms XmppVerif.Props.C01S.C01_roundtrip_StateActive
#print axioms XmppVerif.Props.C01S.C01_roundtrip_StateComposing
#print axioms XmppVerif.Props.C01S.C01_roundtrip_StateGone
#print axioms XmppVerif.Props.C01S.C01_roundtrip_StateInactive
#print axioms XmppVerif.Props.C01S.C01_roundtrip_StatePaused
#print axioms XmppVerif.Props.C01S.C01_roundtrip_HintNoPermanentStore
#print axioms XmppVerif.Props.C01S.C01_roundtrip_HintNoStore
#print axioms XmppVerif.Props.C01S.C01_roundtrip_HintNoCopy
#print axioms XmppVerif.Props.C01S.C01_roundtrip_HintStore
#print axioms XmppVerif.Props.C01S.C01_roundtrip_OOB
#print axioms XmppVerif.Props.C01S.C01_roundtrip_ReceiptRequest
#print axioms XmppVerif.Props.C01S.C01_roundtrip_ReceiptReceived
#print axioms XmppVerif.Props.C01S.C01_roundtrip_Bind
#print axioms XmppVerif.Props.C01S.C01_roundtrip_StreamSession
#print axioms XmppVerif.Props.C01S.C01_roundtrip_PubSubGeneric
#print axioms XmppVerif.Props.C01S.C01_roundtrip_MucPresence
