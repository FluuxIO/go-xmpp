import XmppVerif.Proofs.C01IQ
/-
C01, stanza envelopes and nonzas: for every value of the modelled types inside the stated class, marshal, print +
tokenize under any default namespace, decode = the value, rest of the stream untouched; the second serialization is
byte-identical; the oracle accepts the model (flat, SMFailed, Message, Presence); negative witnesses for the recorded findings F-01c and F-01g.
Modelled types: Message{Attrs, Subject, Body, Thread, Error}, Presence{Attrs, Show, Status, Priority, Error},
IQ{Attrs, Error, Any}, Err, SMEnable, SMEnabled, SMRequest, SMAnswer, SMResume, SMResumed, SMFailed, SASLAuth, Handshake.
-/
namespace XmppVerif.Props.C01
open XmppVerif.Model.C01 XmppVerif.Spec.C01 XmppVerif.Proofs.C01

/-- Any schema of attribute fields (string / uint / *uint / *bool, with or without omitempty) plus an optional
`,innerxml` string, with distinct attribute names: every conforming value round-trips. -/
theorem C01_roundtrip_flat (ctx : Str) (s : Schema) (v : FlatVal) (rest : List Tok)
    (hs : s.wf = true) (hv : v.wf s = true) :
    unmarshalWith (decFlat s) (marshalWith ctx (encFlat s) v ++ rest) = some (v, rest) :=
  unmarshalWith_toks _ _ v rest ⟨_, _, _, view_elem ctx _ _ _⟩ (flat_rt ctx s v hs hv)

theorem C01_reserialise_flat (ctx : Str) (s : Schema) (v : FlatVal) (hs : s.wf = true) (hv : v.wf s = true) :
    (unmarshalWith (decFlat s) (marshalWith ctx (encFlat s) v)).map (fun p => render (encFlat s p.1)) =
      some (render (encFlat s v)) :=
  reserialise (fun x => render (encFlat s x)) (C01_roundtrip_flat ctx s v [] hs hv)

theorem C01_roundtrip_SMEnable (ctx : Str) (v : FlatVal) (rest : List Tok) (hv : v.wf schemaSMEnable = true) :
    unmarshalWith (decFlat schemaSMEnable) (marshalWith ctx (encFlat schemaSMEnable) v ++ rest) = some (v, rest) :=
  C01_roundtrip_flat ctx _ v rest (by decide +kernel) hv
theorem C01_roundtrip_SMEnabled (ctx : Str) (v : FlatVal) (rest : List Tok) (hv : v.wf schemaSMEnabled = true) :
    unmarshalWith (decFlat schemaSMEnabled) (marshalWith ctx (encFlat schemaSMEnabled) v ++ rest) = some (v, rest) :=
  C01_roundtrip_flat ctx _ v rest (by decide +kernel) hv
theorem C01_roundtrip_SMRequest (ctx : Str) (v : FlatVal) (rest : List Tok) (hv : v.wf schemaSMRequest = true) :
    unmarshalWith (decFlat schemaSMRequest) (marshalWith ctx (encFlat schemaSMRequest) v ++ rest) = some (v, rest) :=
  C01_roundtrip_flat ctx _ v rest (by decide +kernel) hv
theorem C01_roundtrip_SMAnswer (ctx : Str) (v : FlatVal) (rest : List Tok) (hv : v.wf schemaSMAnswer = true) :
    unmarshalWith (decFlat schemaSMAnswer) (marshalWith ctx (encFlat schemaSMAnswer) v ++ rest) = some (v, rest) :=
  C01_roundtrip_flat ctx _ v rest (by decide +kernel) hv
theorem C01_roundtrip_SMResumed (ctx : Str) (v : FlatVal) (rest : List Tok) (hv : v.wf schemaSMResumed = true) :
    unmarshalWith (decFlat schemaSMResumed) (marshalWith ctx (encFlat schemaSMResumed) v ++ rest) = some (v, rest) :=
  C01_roundtrip_flat ctx _ v rest (by decide +kernel) hv
theorem C01_roundtrip_SMResume (ctx : Str) (v : FlatVal) (rest : List Tok) (hv : v.wf schemaSMResume = true) :
    unmarshalWith (decFlat schemaSMResume) (marshalWith ctx (encFlat schemaSMResume) v ++ rest) = some (v, rest) :=
  C01_roundtrip_flat ctx _ v rest (by decide +kernel) hv
/-- SASLAuth: `Value` is `,innerxml`, raw by design; the class requires it to be plain character data (base64 is). -/
theorem C01_roundtrip_SASLAuth (ctx : Str) (v : FlatVal) (rest : List Tok) (hv : v.wf schemaSASLAuth = true) :
    unmarshalWith (decFlat schemaSASLAuth) (marshalWith ctx (encFlat schemaSASLAuth) v ++ rest) = some (v, rest) :=
  C01_roundtrip_flat ctx _ v rest (by decide +kernel) hv
theorem C01_roundtrip_Handshake (ctx : Str) (v : FlatVal) (rest : List Tok) (hv : v.wf schemaHandshake = true) :
    unmarshalWith (decFlat schemaHandshake) (marshalWith ctx (encFlat schemaHandshake) v ++ rest) = some (v, rest) :=
  C01_roundtrip_flat ctx _ v rest (by decide +kernel) hv

theorem C01_roundtrip_SMFailed (ctx : Str) (v : SMFailed) (rest : List Tok) (hv : v.wf = true) :
    unmarshalWith decSMFailed (marshalWith ctx encSMFailed v ++ rest) = some (v, rest) :=
  unmarshalWith_toks _ _ v rest ⟨_, _, _, view_elem ctx _ _ _⟩ (smfailed_rt ctx v hv)

theorem C01_reserialise_SMFailed (ctx : Str) (v : SMFailed) (hv : v.wf = true) :
    (unmarshalWith decSMFailed (marshalWith ctx encSMFailed v)).map (fun p => render (encSMFailed p.1)) =
      some (render (encSMFailed v)) :=
  reserialise (fun x => render (encSMFailed x)) (C01_roundtrip_SMFailed ctx v [] hv)

def decErr (e : El) : Option Err := some (decErrOnto Err.zero e)

/-- error condition, type, code and text are preserved (reason a name other than text/gone: F-01c, F-01g) -/
theorem C01_roundtrip_Err (ctx : Str) (e : Err) (rest : List Tok) (hw : e.wf = true) :
    unmarshalWith decErr (marshalWith ctx errElem e ++ rest) = some (e, rest) :=
  unmarshalWith_toks _ _ e rest ⟨_, _, _, view_elem ctx _ _ _⟩ (by rw [decErr, err_rt ctx e hw])

/-- the empty error has no wire form at all (it is how "no error" is written inside Message / Presence) -/
theorem C01_Err_empty_omitted (e : Err) : encErr e = [] ↔ e.isEmpty = true := by
  unfold encErr; cases e.isEmpty <;> simp

theorem C01_reserialise_Err (ctx : Str) (e : Err) (hw : e.wf = true) :
    (unmarshalWith decErr (marshalWith ctx errElem e)).map (fun p => render (errElem p.1)) = some (render (errElem e)) :=
  reserialise (fun x => render (errElem x)) (C01_roundtrip_Err ctx e [] hw)

/-- type, id, from, to, lang: each attribute is preserved, every subset of present / absent attributes -/
theorem C01_attrs_preserved (a : Attrs) (h : a.wf = true) : decAttrs (viewAttrs (encAttrs a) []) = a := by
  rw [attrs_view a h, decAttrs_encAttrs]

theorem C01_roundtrip_Message (ctx : Str) (m : Message) (rest : List Tok) (hctx : ctxOk ctx = true)
    (hw : m.wf = true) : unmarshalWith decMessage (marshalWith ctx encMessage m ++ rest) = some (m, rest) :=
  unmarshalWith_toks _ _ m rest ⟨_, _, _, view_elem ctx _ _ _⟩ (msg_rt ctx m hctx hw)

theorem C01_reserialise_Message (ctx : Str) (m : Message) (hctx : ctxOk ctx = true) (hw : m.wf = true) :
    (unmarshalWith decMessage (marshalWith ctx encMessage m)).map (fun p => render (encMessage p.1)) =
      some (render (encMessage m)) :=
  reserialise (fun x => render (encMessage x)) (C01_roundtrip_Message ctx m [] hctx hw)

theorem C01_roundtrip_Presence (ctx : Str) (p : Presence) (rest : List Tok) (hctx : ctxOk ctx = true)
    (hw : p.wf = true) : unmarshalWith decPresence (marshalWith ctx encPresence p ++ rest) = some (p, rest) :=
  unmarshalWith_toks _ _ p rest ⟨_, _, _, view_elem ctx _ _ _⟩ (pres_rt ctx p hctx hw)

theorem C01_reserialise_Presence (ctx : Str) (p : Presence) (hctx : ctxOk ctx = true) (hw : p.wf = true) :
    (unmarshalWith decPresence (marshalWith ctx encPresence p)).map (fun q => render (encPresence q.1)) =
      some (render (encPresence p)) :=
  reserialise (fun x => render (encPresence x)) (C01_roundtrip_Presence ctx p [] hctx hw)

/-- IQ with its addressing, error and generic payload (`Any`, a Node tree of the exact class under `ctx`).
`iqCanon` only replaces a pointer to the all-empty Err (which has no wire form) by "no error". -/
theorem C01_roundtrip_IQ (ctx : Str) (q : IQ) (rest : List Tok) (hw : q.wf ctx = true) :
    unmarshalWith decIQ (marshalWith ctx encIQ q ++ rest) = some (iqCanon q, rest) :=
  unmarshalWith_toks _ _ (iqCanon q) rest ⟨_, _, _, view_elem ctx _ _ _⟩ (iq_rt ctx q hw)

private theorem encIQ_canon (q : IQ) : encIQ (iqCanon q) = encIQ q := by
  obtain ⟨a, e, t⟩ := q
  cases e with
  | none => rfl
  | some e =>
    cases h : e.isEmpty with
    | true => simp [iqCanon, encIQ, encErr, h]
    | false => simp [iqCanon, h]

theorem C01_reserialise_IQ (ctx : Str) (q : IQ) (hw : q.wf ctx = true) :
    (unmarshalWith decIQ (marshalWith ctx encIQ q)).map (fun p => render (encIQ p.1)) = some (render (encIQ q)) := by
  rw [← encIQ_canon q]
  exact reserialise (fun x => render (encIQ x)) (C01_roundtrip_IQ ctx q [] hw)

private theorem holdsGen_model {α : Type} [DecidableEq α] (ctx : Str) (enc : α → El) (dec : El → Option α)
    (inQ : Bool) (v : α) (hel : ∃ n a ks, enc v = .elem n a ks)
    (h : inQ = true → dec (view ctx (enc v)) = some v) :
    holdsGen inQ v (enc v) (modelObs ctx enc dec v) = true := by
  unfold holdsGen
  cases hq : inQ with
  | false => rfl
  | true =>
    have hd := h hq
    obtain ⟨n, a, ks, he⟩ := hel
    have hp : parseElem (toks (view ctx (enc v))) = some (view ctx (enc v), []) := by
      rw [he, view_elem, ← List.append_nil (toks _), parse_toks]
    simp [modelObs, hp, hd, shape_view]

private theorem err_wf_of (e : Err) (h1 : errInQ e = true) (h2 : e.reasonNotName = false)
    (h3 : e.reasonShadowed = false) : e.wf = true := by
  simp only [errInQ, Bool.and_eq_true] at h1
  simp only [Err.reasonNotName, Bool.and_eq_false_iff, Bool.not_eq_false'] at h2
  simp only [Err.reasonShadowed, Bool.or_eq_false_iff, beq_eq_false_iff_ne, ne_eq] at h3
  simp only [Err.wf, Bool.and_eq_true, Bool.or_eq_true, bne_iff_ne, ne_eq]
  refine ⟨⟨⟨h1.1.1.1, h1.1.1.2⟩, h1.2⟩, ?_⟩
  rcases h2 with h | h
  · left; simpa using h
  · cases hr : e.reason.isEmpty
    · right; exact ⟨⟨h, h3.1⟩, h3.2⟩
    · left; rfl

theorem C01_flat_oracle_accepts_model (ctx : Str) (s : Schema) (v : FlatVal) (hs : s.wf = true) :
    holdsFlat s v (modelObs ctx (encFlat s) (decFlat s) v) = true :=
  holdsGen_model ctx _ _ _ v ⟨_, _, _, rfl⟩ (fun h => flat_rt ctx s v hs h)

theorem C01_SMFailed_oracle_accepts_model (ctx : Str) (v : SMFailed) :
    holdsSMFailed v (modelObs ctx encSMFailed decSMFailed v) = true :=
  holdsGen_model ctx _ _ _ v ⟨_, _, _, rfl⟩ (fun h => smfailed_rt ctx v h)

/-- outside the regions of F-01c and F-01g -/
theorem C01_Message_oracle_accepts_model (ctx : Str) (m : Message) (hctx : ctxOk ctx = true)
    (h2 : m.error.reasonNotName = false) (h3 : m.error.reasonShadowed = false) :
    holdsMessage m (modelObs ctx encMessage decMessage m) = true :=
  holdsGen_model ctx _ _ _ m ⟨_, _, _, rfl⟩ (fun h => by
    simp only [msgInQ, Bool.and_eq_true] at h
    exact msg_rt ctx m hctx (by simp [Message.wf, h.1.1.1.1, h.1.1.1.2, h.1.1.2, h.1.2, err_wf_of _ h.2 h2 h3]))

theorem C01_Presence_oracle_accepts_model (ctx : Str) (p : Presence) (hctx : ctxOk ctx = true)
    (h2 : p.error.reasonNotName = false) (h3 : p.error.reasonShadowed = false) :
    holdsPresence p (modelObs ctx encPresence decPresence p) = true :=
  holdsGen_model ctx _ _ _ p ⟨_, _, _, rfl⟩ (fun h => by
    simp only [presInQ, Bool.and_eq_true] at h
    exact pres_rt ctx p hctx (by simp [Presence.wf, h.1.1.1.1, h.1.1.1.2, h.1.1.2, h.1.2, err_wf_of _ h.2 h2 h3]))

/-- F-01c: a reason that is not a name injects markup: 6 `<` for a value with 2 elements. -/
def witC : Err := ⟨404, "cancel".toList, "x><inj/><y".toList, []⟩
theorem C01_witness_F01c :
    witC.reasonNotName = true ∧ errInQ witC = true ∧
    render (errElem witC) =
      "<error code=\"404\" type=\"cancel\"><x><inj/><y xmlns=\"urn:ietf:params:xml:ns:xmpp-stanzas\"></x><inj/><y></error>".toList ∧
    elemCount (errElem witC) = 2 ∧ count '<' (render (errElem witC)) = 8 := by
  repeat rw [String.toList_ofList]
  decide +kernel

/-- F-01g: the defined condition `gone` is read back as an (empty) error text: the reason is lost. -/
def witG : Err := ⟨404, "modify".toList, "gone".toList, []⟩
theorem C01_witness_F01g :
    witG.reasonShadowed = true ∧ errInQ witG = true ∧
    (unmarshalWith decErr (marshalWith [] errElem witG)).map (·.1) = some ⟨404, "modify".toList, [], []⟩ := by
  repeat rw [String.toList_ofList]
  decide +kernel

-- non-vacuity: the classes contain metacharacter-heavy values
example : (Message.mk ⟨"chat".toList, "<1>".toList, "a@b/c".toList, [], "en".toList⟩ " s ".toList "a<b>&\"'\r\n]]>".toList []
    ⟨0, "cancel".toList, "item-not-found".toList, "no".toList⟩).wf = true := by
  repeat rw [String.toList_ofList]
  decide +kernel
example : (Presence.mk ⟨[], [], [], [], []⟩ "away".toList "é".toList (-128) Err.zero).wf = true := by
  repeat rw [String.toList_ofList]
  decide +kernel
example : (IQ.mk ⟨"get".toList, "1".toList, [], [], "en".toList⟩ (some ⟨0, "cancel".toList, "conflict".toList, []⟩)
    (some (.mk ⟨"u:1".toList, "q".toList⟩ [] [] []))).wf "jabber:client".toList = true := by
  repeat rw [String.toList_ofList]
  decide +kernel
example : ctxOk "jabber:client".toList = true ∧ ctxOk [] = true ∧ ctxOk "jabber:component:accept".toList = true := by
  rw [ctxOk_iff, ctxOk_iff, show ([] : Str) = "".toList from rfl, ctxOk_iff]
  decide +kernel
example : (FlatVal.mk [.uintPtr (some 0), .boolPtr none] []).wf schemaSMEnable = true := by decide +kernel
example : (FlatVal.mk [.str "PLAIN".toList] "AGFiYwBk".toList).wf schemaSASLAuth = true := by
  repeat rw [String.toList_ofList]
  decide +kernel
example : (FlatVal.mk [.str "PLAIN".toList] "<x/>".toList).wf schemaSASLAuth = false := by
  repeat rw [String.toList_ofList]
  decide +kernel

end XmppVerif.Props.C01

#print axioms XmppVerif.Props.C01.C01_roundtrip_flat
#print axioms XmppVerif.Props.C01.C01_reserialise_flat
#print axioms XmppVerif.Props.C01.C01_roundtrip_SMEnable
#print axioms XmppVerif.Props.C01.C01_roundtrip_SMEnabled
#print axioms XmppVerif.Props.C01.C01_roundtrip_SMRequest
#print axioms XmppVerif.Props.C01.C01_roundtrip_SMAnswer
#print axioms XmppVerif.Props.C01.C01_roundtrip_SMResumed
#print axioms XmppVerif.Props.C01.C01_roundtrip_SMResume
#print axioms XmppVerif.Props.C01.C01_roundtrip_SASLAuth
#print axioms XmppVerif.Props.C01.C01_roundtrip_Handshake
#print axioms XmppVerif.Props.C01.C01_roundtrip_SMFailed
#print axioms XmppVerif.Props.C01.C01_reserialise_SMFailed
#print axioms XmppVerif.Props.C01.C01_roundtrip_Err
#print axioms XmppVerif.Props.C01.C01_Err_empty_omitted
#print axioms XmppVerif.Props.C01.C01_reserialise_Err
#print axioms XmppVerif.Props.C01.C01_attrs_preserved
#print axioms XmppVerif.Props.C01.C01_roundtrip_Message
#print axioms XmppVerif.Props.C01.C01_reserialise_Message
#print axioms XmppVerif.Props.C01.C01_roundtrip_Presence
#print axioms XmppVerif.Props.C01.C01_reserialise_Presence
#print axioms XmppVerif.Props.C01.C01_roundtrip_IQ
#print axioms XmppVerif.Props.C01.C01_reserialise_IQ
#print axioms XmppVerif.Props.C01.C01_flat_oracle_accepts_model
#print axioms XmppVerif.Props.C01.C01_SMFailed_oracle_accepts_model
#print axioms XmppVerif.Props.C01.C01_Message_oracle_accepts_model
#print axioms XmppVerif.Props.C01.C01_Presence_oracle_accepts_model
#print axioms XmppVerif.Props.C01.C01_witness_F01c
#print axioms XmppVerif.Props.C01.C01_witness_F01g
