import XmppVerif.Proofs.C01Node
/-
C01, token level: the generic element parser (`Decoder.DecodeElement`) inverts the token stream of any element;
`stanza.Node` trees round-trip exactly on the class `Tree.wf` (= the property's quantifier minus the regions of the
findings F-01d and F-01e); negative witnesses for both regions; the tag delimiters of the output depend on the
structure only, whatever the text.
-/
namespace XmppVerif.Props.C01
open XmppVerif.Model.C01 XmppVerif.Spec.C01 XmppVerif.Proofs.C01

/-- DecodeElement consumes exactly the element it was started on and reconstructs it, for every element, every
nesting, whatever follows in the stream. -/
theorem C01_parse_toks (n : Name) (a : List Attr) (ks : List El) (r : List Tok) :
    parseElem (toks (.elem n a ks) ++ r) = some (.elem n a ks, r) := parse_toks n a ks r

/-- Arbitrary generic node trees of the exact class: marshal, print + tokenize under any default namespace `ctx`,
decode: the same tree, and the rest of the stream untouched. -/
theorem C01_node_roundtrip (ctx : Str) (t : Tree) (rest : List Tok) (h : t.wf ctx = true) :
    unmarshalNode (marshalNode ctx t ++ rest) = some (t, rest) := by
  simp only [Tree.wf, Bool.and_eq_true, Bool.not_eq_true'] at h
  obtain ⟨⟨hq, hi⟩, ha⟩ := h
  cases t with
  -- `unmarshalNode` is `unmarshalWith decNode` written out
  | mk n a c ns => exact unmarshalWith_toks decNode _ _ rest ⟨_, _, _, view_elem ctx _ _ _⟩ (node_rt ctx _ hq hi ha)

/-- … and serializing the parsed value again gives byte-identical output. -/
theorem C01_node_reserialise (ctx : Str) (t : Tree) (h : t.wf ctx = true) :
    (unmarshalNode (marshalNode ctx t)).map (fun p => nodeBytes p.1) = some (nodeBytes t) :=
  reserialise (dec := decNode) nodeBytes (C01_node_roundtrip ctx t [] h)

/-- Text never injects XML, any element tree (all modelled types serialize through `render`): with names that are
names, the output contains exactly two `<` and two `>` per element of the value's structure, whatever characters
the attribute values, namespaces and text contain. -/
theorem C01_structure (e : El) (h : e.namesOk = true) :
    count '<' (render e) = 2 * elemCount e ∧ count '>' (render e) = 2 * elemCount e :=
  ⟨struct_el '<' (.inl rfl) e h, struct_el '>' (.inr rfl) e h⟩

theorem C01_node_structure (t : Tree) (h : t.namesOk = true) :
    count '<' (nodeBytes t) = 2 * elemCount (encNode t) ∧ count '>' (nodeBytes t) = 2 * elemCount (encNode t) :=
  C01_structure (encNode t) (encNode_namesOk t h)

/-- The oracle accepts the model's observation for every tree outside the two recorded regions. -/
theorem C01_node_oracle_accepts_model (ctx : Str) (t : Tree)
    (h : (t.inheritsNs ctx || t.hasNsAttr) = false) : holdsNode t (modelNodeObs ctx t) = true := by
  unfold holdsNode
  by_cases hq : t.inQ = true
  · have hw : t.wf ctx = true := by
      simp only [Bool.or_eq_false_iff] at h
      simp [Tree.wf, hq, h.1, h.2]
    have hrt := C01_node_roundtrip ctx t [] hw
    rw [List.append_nil] at hrt
    simp [hq, modelNodeObs, hrt, optBeq, Tree.beq_refl, shape_view]
  · simp [hq]

def nm (sp lo : String) : Name := ⟨sp.toList, lo.toList⟩

/-- F-01d: `<q xmlns="ns:a"><title></title></q>`: the child comes back with the parent's namespace and the second
serialization writes it out. -/
def witD : Tree := .mk (nm "ns:a" "q") [] [] [.mk (nm "" "title") [] [] []]
def witD' : Tree := .mk (nm "ns:a" "q") [] [] [.mk (nm "ns:a" "title") [] [] []]

theorem C01_witness_F01d :
    witD.inQ = true ∧ witD.inheritsNs [] = true ∧
    (unmarshalNode (marshalNode [] witD)).map (fun p => Tree.beq p.1 witD') = some true ∧
    Tree.beq witD' witD = false ∧
    nodeBytes witD = "<q xmlns=\"ns:a\"><title></title></q>".toList ∧
    nodeBytes witD' = "<q xmlns=\"ns:a\"><title xmlns=\"ns:a\"></title></q>".toList := by
  repeat rw [String.toList_ofList]
  decide +kernel

/-- F-01e: an attribute with a namespace comes back as two attributes (the generated prefix declaration is kept),
and the second serialization declares a prefix for the pseudo-namespace "xmlns". -/
def witE : Tree := .mk (nm "" "q") [⟨nm "ns:b" "k", ['v']⟩] [] []
def witE' : Tree := .mk (nm "" "q") [⟨nm "xmlns" "_", "ns:b".toList⟩, ⟨nm "ns:b" "k", ['v']⟩] [] []

theorem C01_witness_F01e :
    witE.inQ = true ∧ witE.hasNsAttr = true ∧ witE.nsAttrModelled = true ∧ witE'.nsAttrModelled = true ∧
    (unmarshalNode (marshalNode [] witE)).map (fun p => Tree.beq p.1 witE') = some true ∧
    Tree.beq witE' witE = false ∧
    nodeBytes witE = "<q xmlns:_=\"ns:b\" _:k=\"v\"></q>".toList ∧
    nodeBytes witE' = "<q xmlns:_xmlns=\"xmlns\" _xmlns:_=\"ns:b\" xmlns:_=\"ns:b\" _:k=\"v\"></q>".toList := by
  repeat rw [String.toList_ofList]
  decide +kernel

-- non-vacuity: the exact class contains mixed content, attributes with metacharacters, nested namespaces
example : (Tree.mk (nm "u:1" "x") [⟨nm "" "k", "<&\"'>\r\n".toList⟩] " ]]> ".toList
    [.mk (nm "u:2" "y") [] [] [.mk (nm "u:2" "z") [] "é".toList []]]).wf "jabber:client".toList = true := by
  repeat rw [String.toList_ofList]
  decide +kernel
example : (Tree.mk (nm "" "x") [] [] [.mk (nm "" "y") [] [] []]).wf [] = true := by decide +kernel
example : (Tree.mk (nm "" "x") [] [] []).wf "jabber:client".toList = false := by
  repeat rw [String.toList_ofList]
  decide +kernel

end XmppVerif.Props.C01

#print axioms XmppVerif.Props.C01.C01_parse_toks
#print axioms XmppVerif.Props.C01.C01_node_roundtrip
#print axioms XmppVerif.Props.C01.C01_node_reserialise
#print axioms XmppVerif.Props.C01.C01_structure
#print axioms XmppVerif.Props.C01.C01_node_structure
#print axioms XmppVerif.Props.C01.C01_node_oracle_accepts_model
#print axioms XmppVerif.Props.C01.C01_witness_F01d
#print axioms XmppVerif.Props.C01.C01_witness_F01e
