import XmppVerif.Gen.SessionSteps
/-
Tie (regenerated facts) for C03 / C04 / C11: the order of the steps in `NewSession` with their early returns, the
shape of `Client.connect`, and - the security-critical part - where `XMPPTransport.isSecure` is assigned:
reset before every dial (fix F-04), and set to true in `StartTLS` only after `Handshake` and `VerifyHostname`.
-/
namespace XmppVerif.Tie.Neg
open XmppVerif.Gen.SessionSteps

theorem tie_newSession : newSession =
  ["if:s.init", "else:s.init", "if:NewConnError", "if:return", "if:s.startTlsIfSupported", "if:fmt.Errorf",
   "if:NewConnError", "if:return", "if:s.reset", "s.auth", "if:return", "s.reset", "if:return", "if:return",
   "s.bind", "if:return", "s.rfc3921Session", "if:return", "s.EnableStreamManagement", "if:return", "return"] := rfl

theorem tie_clientConnect : clientConnect =
  ["c.transport.Connect", "if:return", "NewSession", "if:c.transport.GetDecoder", "if:go func{…}", "if:c.Disconnect", "if:return",
   "c.updateState", "return"] := rfl

theorem tie_connect_resets_secure : transportConnectSecure = ["t.isSecure=false", "net.DialTimeout", "t.StartStream"] := rfl

theorem tie_starttls_secure_last :
    transportStartTLSSecure = ["tlsConn.Handshake", "t.isSecure=false", "tlsConn.VerifyHostname", "t.isSecure=true"] := rfl

end XmppVerif.Tie.Neg
#print axioms XmppVerif.Tie.Neg.tie_newSession
#print axioms XmppVerif.Tie.Neg.tie_clientConnect
#print axioms XmppVerif.Tie.Neg.tie_connect_resets_secure
#print axioms XmppVerif.Tie.Neg.tie_starttls_secure_last
