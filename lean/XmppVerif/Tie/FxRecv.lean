import XmppVerif.Fx
import XmppVerif.Gen.Fx
import XmppVerif.Model.Recv
import XmppVerif.Model.C18
/-
Tie (regenerated MODEL, trace semantics): ONE PASS of the receive loops and of the keepalive, on every path.

`Fx.loopBody` takes the body of the loop of `Client.recv` / `Component.recv` / `keepalive` out of the regenerated
skeleton; `Fx.iterTraces` enumerates every complete trace of one pass (acts in order, the type-switch arm taken as a
marker `@case …`, and how the pass ended: `return`, `continue`); `Fx.allIter_sound` lifts a decidable predicate to every
run of the body. What one pass does is what `Model/Recv.lean` transcribes by hand (and the shape ties `Tie.Recv` pin as
lists); here it is stated as properties of every path of the regenerated skeleton, that is of /repo's working tree.
-/
namespace XmppVerif.Tie.FxRecv
open XmppVerif.Fx XmppVerif.Gen.Fx

/-- An absent name, or a function without a loop, reads as the body `return missing`: `clientPassOk` and `compPassOk` refuse
it; `keepalivePassOk` accepts it, and `keepalive_model_is_the_code` refuses it. -/
def body (name : String) : Fx.Fx :=
  ((XmppVerif.Gen.Fx.all.lookup name).bind loopBody).getD (.ret "missing")

def cnt (a : Act) (t : List Act) : Nat := (t.filter (· == a)).length
def ends_ (w : String) (t : List Act) : Bool := t.getLast? == some (.call w)
def stanzaArm : Act := .call "@case stanza.Message, stanza.Presence, *stanza.IQ"

/-- one pass of Client.recv (C05, C09, C10, C12) -/
def clientPassOk (t : List Act) : Bool :=
  let goesOn := ends_ "continue" t
  let routedAsync := cnt (.spawn "Client.router.route") t
  -- C05: exactly one hand-over per pass that goes on, none on a pass that returns; the only synchronous route call is
  -- the one of the stream-error arm (the code routes a stream error in the loop itself)
  (routedAsync == (if goesOn then 1 else 0)) &&
  (cnt (.call "Router.route") t == (if t.contains (.call "@case stanza.StreamError") then 1 else 0)) &&
  -- C09: counted exactly on the stanza arm, once
  (cnt (.call "inc Client.Session.SMState.Inbound") t == (if t.contains stanzaArm then 1 else 0)) &&
  -- C05 / C10: an <r/> is answered by exactly one Send, on its arm; no other arm sends
  (cnt (.call "Client.Send") t == (if t.contains (.call "@case stanza.SMRequest") then 1 else 0)) &&
  -- C12: a pass that returns reports the loss exactly once; a pass that goes on reports nothing
  (cnt (.call "Client.disconnected") t == (if goesOn then 0 else 1)) &&
  (goesOn || ends_ "return " t) &&
  -- the error callback comes before the report, never after
  noneAfter (· == .call "Client.disconnected") (· == .call "Client.ErrorHandler") t &&
  -- F-18b: a pass that returns has told the keepalive to stop - once, and BEFORE the error callback and the report
  (cnt (.call "stopKeepalive") t == (if goesOn then 0 else 1)) &&
  noneAfter (fun a => a == .call "Client.ErrorHandler" && !goesOn || a == .call "Client.disconnected") (· == .call "stopKeepalive") t &&
  -- every pass reads exactly one packet
  (cnt (.call "stanza.NextPacket") t == 1)

theorem client_pass_every_path : allIter (body "Client.recv") clientPassOk = true := by decide +kernel

/-- **Every pass of the client's receive loop**, whatever was read and whatever failed. -/
theorem client_pass_every_run :
    ∀ o, Runs traceSem (body "Client.recv") [] o → clientPassOk o.trace = true :=
  allIter_sound _ _ client_pass_every_path

/-- the keepalive's quit channel is closed when the receive loop ends, however it ends: the close is DEFERRED before the
loop starts -/
theorem client_recv_defers_quit :
    ((XmppVerif.Gen.Fx.all.lookup "Client.recv").map fun f =>
      match f with
      | .act (.call "defer stopKeepalive") (.loop _ _) => true
      | _ => false) = some true := by decide +kernel

/-- one pass of Component.recv (C05): the packet is routed synchronously, in the loop (arrival order), exactly once on a pass
that goes on (twice on the stream-error arm, as the code is); a pass that returns has routed nothing; no goroutine -/
def compPassOk (t : List Act) : Bool :=
  let goesOn := ends_ "continue" t
  let serr := t.contains (.call "@case stanza.StreamError")
  (cnt (.call "Router.route") t == (if goesOn then (if serr then 2 else 1) else 0)) &&
  !(t.any isSpawn) &&
  (goesOn || ends_ "return " t) &&
  (cnt (.call "stanza.NextPacket") t == 1)

theorem component_pass_every_path : allIter (body "Component.recv") compPassOk = true := by decide +kernel

theorem component_pass_every_run :
    ∀ o, Runs traceSem (body "Component.recv") [] o → compPassOk o.trace = true :=
  allIter_sound _ _ component_pass_every_path

/-- one pass of the keepalive (C18, C12) -/
def keepalivePassOk (t : List Act) : Bool :=
  let pinged := cnt (.call "Transport.Ping") t
  let closed := cnt (.call "Transport.Close") t
  pinged ≤ 1 &&
  -- the transport is closed only after a ping of this pass, and then the pass returns with the ticker stopped
  (closed == 0 || (pinged == 1 && closed == 1 && ends_ "return " t && t.contains (.call "Ticker.Stop") &&
                   noneAfter (· == .call "Transport.Close") (· == .call "Transport.Ping") t)) &&
  -- the quit arm: ticker stopped, return, nothing closed, nothing pinged
  (!(t.contains (.call "<-quit")) || (pinged == 0 && closed == 0 && t.contains (.call "Ticker.Stop") && ends_ "return " t)) &&
  -- a pass that goes on has pinged (a tick) and closed nothing
  (!(ends_ "continue" t) || (pinged == 1 && closed == 0))

theorem keepalive_pass_every_path : allIter (body "keepalive") keepalivePassOk = true := by decide +kernel

theorem keepalive_pass_every_run :
    ∀ o, Runs traceSem (body "keepalive") [] o → keepalivePassOk o.trace = true :=
  allIter_sound _ _ keepalive_pass_every_path

/-- the kinds of action the model speaks about -/
inductive K where
  | route | answer | errh | disconnected | streamErrorEv | disconnect | streamClose | quit
  deriving DecidableEq, Repr

/-- a pass, abstractly: the kinds in order, whether the inbound counter was incremented, whether the loop goes on -/
abbrev Pass := List K × Bool × Bool

def kindOfAct (who : String) : Act → Option K
  | .spawn w => if w == who ++ ".router.route" then some .route else none
  | .call w =>
    if w == "Router.route" then some .route
    else if w == who ++ ".Send" then some .answer            -- the answer to <r/> is attempted (it may fail)
    else if w == who ++ ".ErrorHandler" then some .errh
    else if w == who ++ ".disconnected" || w == who ++ ".updateState(StateDisconnected)" then some .disconnected
    else if w == who ++ ".streamError" then some .streamErrorEv
    else if w == who ++ ".Disconnect" then some .disconnect
    else if w == "Transport.ReceivedStreamClose" then some .streamClose
    else if w == "stopKeepalive" then some .quit            -- the keepalive of the session is told to stop
    else none
  | _ => none

def passOfTrace (who : String) (t : List Act) : Pass :=
  (t.filterMap (kindOfAct who), t.contains (.call ("inc " ++ who ++ ".Session.SMState.Inbound")), ends_ "continue" t)

open XmppVerif.Model.Recv in
def kindOfModel : Model.Recv.Act → K
  | .route _ => .route | .answer _ => .answer | .errh => .errh | .disconnected _ _ => .disconnected
  | .streamErrorEv => .streamErrorEv | .disconnect => .disconnect | .streamClose => .streamClose
  | .quitClosed => .quit

/-- the model's pass for one input; a failed answer was still attempted (the model omits writes that fail) -/
def passOfModel (i : Model.Recv.In) : Pass :=
  let r := Model.Recv.clientStep ⟨"", 0⟩ i
  let ks := r.2.1.map kindOfModel
  ((match i with | .pkt .r true => .answer :: ks | _ => ks), r.1.inbound == 1, r.2.2)

/-- one representative of every class of input the model distinguishes -/
def inputClasses : List Model.Recv.In :=
  [.cut, .pkt .serr false, .pkt .r false, .pkt .r true, .pkt .close false, .pkt (.msg "m") false,
   .pkt (.pres "p") false, .pkt (.iq "i") false, .pkt (.a 3) false, .pkt (.nonza "features") false]

def sameSet (a b : List Pass) : Bool := a.all b.contains && b.all a.contains

/-- **`Model.Recv.clientStep` = one pass of the regenerated `Client.recv`** (as sets of abstract passes): every input
class of the model is a path of the code with the same kinds of action in the same order, the same verdict on the
counter and on going on; and the code has no other path. -/
theorem client_model_is_the_code :
    ((iterTraces (body "Client.recv")).map fun ts => sameSet (ts.map (passOfTrace "Client")) (inputClasses.map passOfModel)) =
      some true := by decide +kernel

def passOfComponentModel (i : Model.Recv.In) : Pass :=
  let r := Model.Recv.componentStep i
  (r.1.map kindOfModel, false, r.2)

/-- the same for `Component.recv` (state change before the error callback, synchronous routing) -/
theorem component_model_is_the_code :
    ((iterTraces (body "Component.recv")).map fun ts =>
        sameSet (ts.map (passOfTrace "Component")) (inputClasses.map passOfComponentModel)) = some true := by decide +kernel

/-- a pass of the keepalive, abstractly: pinged, closed the transport, stopped the ticker, returned -/
abbrev KPass := Bool × Bool × Bool × Bool

def kpassOfTrace (t : List Act) : KPass :=
  (t.contains (.call "Transport.Ping"), t.contains (.call "Transport.Close"), t.contains (.call "Ticker.Stop"), ends_ "return " t)

/-- the model's three non-blocked iterations: a tick whose ping succeeds, a tick whose ping fails, the quit arm -/
def kpassesOfModel : List KPass :=
  let p (s : Model.C18.St) (fails choose : Bool) : KPass :=
    let r := Model.C18.step s (.iter fails choose)
    (r.2.contains .ping, r.2.contains .close, r.2.contains .stop, r.1.stopped)
  [p ⟨true, false, false⟩ false true, p ⟨true, false, false⟩ true true, p ⟨false, true, false⟩ false false]

/-- **`Model.C18.step` = one pass of the regenerated `keepalive`** (both inclusions) -/
theorem keepalive_model_is_the_code :
    ((iterTraces (body "keepalive")).map fun ts =>
      let a := ts.map kpassOfTrace
      a.all kpassesOfModel.contains && kpassesOfModel.all a.contains) = some true := by decide +kernel

-- the comparison is not vacuous: a model without its cut case, or one that counted acknowledgement requests, differs
example : ((iterTraces (body "Client.recv")).map fun ts =>
    sameSet (ts.map (passOfTrace "Client")) ((inputClasses.drop 1).map passOfModel)) = some false := by decide +kernel
example : ((iterTraces (body "Client.recv")).map fun ts =>
    sameSet (ts.map (passOfTrace "Client")) ((inputClasses.map passOfModel).map fun p =>
      if p.1 == [.answer, .route] then (p.1, true, p.2.2) else p)) = some false := by decide +kernel

-- not vacuous: the predicates refuse a counter incremented on the <r/> arm, a pass that routes twice, a quit arm that closes
example : clientPassOk [.call "stanza.NextPacket", .call "@case stanza.SMRequest", .call "Client.Send",
    .call "inc Client.Session.SMState.Inbound", .spawn "Client.router.route", .call "continue"] = false := by decide +kernel
example : clientPassOk [.call "stanza.NextPacket", stanzaArm, .call "inc Client.Session.SMState.Inbound",
    .spawn "Client.router.route", .call "continue"] = true := by decide +kernel
example : keepalivePassOk [.call "<-quit", .call "Ticker.Stop", .call "Transport.Close", .call "return "] = false := by decide +kernel
example : ((iterTraces (body "Client.recv")).map fun ts => decide (6 ≤ ts.length)) = some true := by decide +kernel

end XmppVerif.Tie.FxRecv
#print axioms XmppVerif.Fx.iterTraces_sound
#print axioms XmppVerif.Fx.allIter_sound
#print axioms XmppVerif.Tie.FxRecv.client_pass_every_path
#print axioms XmppVerif.Tie.FxRecv.client_pass_every_run
#print axioms XmppVerif.Tie.FxRecv.client_recv_defers_quit
#print axioms XmppVerif.Tie.FxRecv.component_pass_every_path
#print axioms XmppVerif.Tie.FxRecv.component_pass_every_run
#print axioms XmppVerif.Tie.FxRecv.keepalive_pass_every_path
#print axioms XmppVerif.Tie.FxRecv.keepalive_pass_every_run
#print axioms XmppVerif.Tie.FxRecv.client_model_is_the_code
#print axioms XmppVerif.Tie.FxRecv.component_model_is_the_code
#print axioms XmppVerif.Tie.FxRecv.keepalive_model_is_the_code
