import XmppVerif.Gen.Decoder
/-
Tie (regenerated facts) for the byte-level part of C02: the library's xml.Decoders are constructed and configured as
Model/C02Bytes.lean assumes - `xml.NewDecoder` on a `bufio.NewReaderSize(conn, 32768)` in both transports (and on the
raw connection in the certificate checker and the server mock), the only option ever written is
`CharsetReader = Config.CharsetReader` (nil unless the user sets one; the model is the nil case), `Strict`, `Entity`,
`AutoClose`, `DefaultSpace` are never touched, `RawToken` (no namespace translation, no nesting check) is never used.
Setting `decoder.Strict = false`, installing an Entity map, or decoding through another constructor breaks one of these.
-/
namespace XmppVerif.Tie.C02Bytes
open XmppVerif.Gen.Decoder

theorem tie_decoder_sites : sites =
    ["ServerCheck.Check: xml.NewDecoder(tcpconn)", "ServerMock.loop: xml.NewDecoder(conn)",
     "WebsocketTransport.Connect: xml.NewDecoder(bufio.NewReaderSize(t,maxPacketSize))",
     "XMPPTransport.Connect: xml.NewDecoder(bufio.NewReaderSize(t.readWriter,maxPacketSize))",
     "XMPPTransport.StartTLS: xml.NewDecoder(bufio.NewReaderSize(t.readWriter,maxPacketSize))"] := rfl

theorem tie_decoder_options : optionWrites =
    ["WebsocketTransport.Connect: t.decoder.CharsetReader=t.Config.CharsetReader",
     "XMPPTransport.Connect: t.decoder.CharsetReader=t.Config.CharsetReader",
     "XMPPTransport.StartTLS: t.decoder.CharsetReader=t.Config.CharsetReader"] := rfl

theorem tie_no_raw_token : rawTokenCalls = [] := rfl

theorem tie_buffer_size : maxPacketSize = 32768 := rfl

end XmppVerif.Tie.C02Bytes
#print axioms XmppVerif.Tie.C02Bytes.tie_decoder_sites
#print axioms XmppVerif.Tie.C02Bytes.tie_decoder_options
#print axioms XmppVerif.Tie.C02Bytes.tie_no_raw_token
#print axioms XmppVerif.Tie.C02Bytes.tie_buffer_size
