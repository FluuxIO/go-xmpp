import XmppVerif.Gen.Consts
import XmppVerif.Gen.Auth
import XmppVerif.Model.C14
/-
Tie (regenerated facts) for C14: the shape of `authSASL`, `authPlain`, `isSupportedMech`, `Session.auth` and of
`stanza.SASLAuth` that `Model/C14.lean` transcribes. These are facts a correspondence run cannot establish by
sampling: the operand order of the raw string, which switch arms exist and which of them build a permanent
ConnError, that the payload travels in an `,innerxml` field, that the element is written before the reply is read.
(How to read an action or condition list: head of Tie/Recv.lean; `case():` is the `default` arm of a type switch.)
-/
namespace XmppVerif.Tie.C14
open XmppVerif.Gen.Consts XmppVerif.Gen.Auth XmppVerif.Model.C14

/-- the mechanism lists of `Password` / `OAuthToken` are the model's -/
theorem tie_mechs : passwordMechs = Kind.password.mechs ∧ oauthMechs = Kind.token.mechs := ⟨rfl, rfl⟩

/-- the loop: credential order outside, first hit wins (`break`), membership test against the server's list -/
theorem tie_loop :
    authSASLLoop = ["credential.mechanisms", "if isSupportedMech(mech,f.Mechanisms.Mechanism) {matchingMech=mech; break}"] ∧
    isSupportedMechBody = ["mechanisms", "if (mech==m) {return true}"] := ⟨rfl, rfl⟩

/-- the switch: exactly the arms PLAIN / X-OAUTH2 (the model's `implemented`) and default -/
theorem tie_switch_arms :
    authSASLSwitch.map Prod.fst = [["\"PLAIN\"", "\"X-OAUTH2\""], ["default"]] ∧
    (∀ m ∈ ["PLAIN", "X-OAUTH2"], implemented m = true) := ⟨rfl, by decide⟩

/-- the implemented arm calls authPlain with (mechanism, user, secret) in this order; the default arm returns a
permanent ConnError and writes nothing -/
theorem tie_switch_bodies :
    authSASLSwitch.map (fun a => a.2.getLast?) =
      [some "return authPlain(socket,decoder,matchingMech,user,credential.secret)",
       some "return NewConnError(err,true)"] ∧
    authSASLSwitch.map (fun a => a.2.length) = [1, 2] := ⟨rfl, rfl⟩

/-- `raw := "\x00" + user + "\x00" + secret` -/
theorem tie_raw : authPlainRaw = ["\"\\x00\"", "user", "\"\\x00\"", "secret"] := rfl

/-- standard base64 with padding; marshal, write, then read the reply -/
theorem tie_plain_actions : authPlainActions =
    ["base64.StdEncoding.EncodedLen", "base64.StdEncoding.Encode", "[]byte", "xml.Marshal", "if:return",
     "socket.Write", "if:return", "else:if:return", "stanza.NextPacket", "if:return",
     "case(stanza.SASLFailure):NewConnError", "case(stanza.SASLFailure):return", "case():v.Name", "case():return",
     "return"] := rfl

/-- the reply switch: success falls through to `return err` (nil), failure is a permanent ConnError, anything else a
plain error -/
theorem tie_reply_switch :
    authPlainSwitch.map Prod.fst = [["stanza.SASLSuccess"], ["stanza.SASLFailure"], ["default"]] ∧
    authPlainSwitch.map (fun a => a.2.getLast?) =
      [none, some "return NewConnError(err,true)",
       some "return errors.New((\"expected SASL success or failure, got \"+v.Name()))"] ∧
    authPlainReturns.getLast? = some "err" := ⟨rfl, rfl, rfl⟩

/-- the payload is an `,innerxml` field (written verbatim: see C14_alphabet), the mechanism an attribute -/
theorem tie_fields : saslAuthFields =
    ["XMLName xml.Name xml:\"urn:ietf:params:xml:ns:xmpp-sasl auth\"",
     "Mechanism string xml:\"mechanism,attr\"",
     "Value string xml:\",innerxml\""] := rfl

/-- Session.auth passes the local part of the configured JID and the configured credential -/
theorem tie_session_call : sessionAuthCall =
    ["authSASL(s.transport,s.transport.GetDecoder(),s.Features,o.parsedJid.Node,o.Credential)"] := rfl

end XmppVerif.Tie.C14
#print axioms XmppVerif.Tie.C14.tie_mechs
#print axioms XmppVerif.Tie.C14.tie_loop
#print axioms XmppVerif.Tie.C14.tie_switch_arms
#print axioms XmppVerif.Tie.C14.tie_switch_bodies
#print axioms XmppVerif.Tie.C14.tie_raw
#print axioms XmppVerif.Tie.C14.tie_plain_actions
#print axioms XmppVerif.Tie.C14.tie_reply_switch
#print axioms XmppVerif.Tie.C14.tie_fields
#print axioms XmppVerif.Tie.C14.tie_session_call
