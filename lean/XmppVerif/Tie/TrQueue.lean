import XmppVerif.GoRT
import XmppVerif.Gen.TrStanza
import XmppVerif.Model.C17
import XmppVerif.Props.C17
/-
Tie by TRANSLATION for C17 / C10: the bodies of `UnAckQueue.Peek / PeekN / Pop / PopN / Push / Empty`
(stanza/stream_management.go), translated to Lean by go/extract/tr.go on every run (`Gen/TrStanza.lean`), are proved
equal, for ALL queues and arguments, to the hand-written model `Model.C17` that the property theorems are about.
`conc` embeds a model state into the Go representation; every state the Go code can reach from `NewUnAckQueue()`
through these methods is in its image (entries are only ever built by `Push`, with `isNil = false`).
-/
namespace XmppVerif.Tie.TrQueue
open XmppVerif XmppVerif.Gen.TrStanza XmppVerif.Model.C17

def concE (e : Entry) : UnAckedStz := { isNil := false, Id := (e.id : Int), Stz := e.stz.toList }
def conc (s : QS) : UnAckQueue := { isNil := false, Uslice := s.q.map concE, lastId := (s.lastId : Int) }

/-- zero or one model entries as the Go `Queueable` (nil interface or the entry) -/
def optE : List Entry → UnAckedStz
  | [] => UnAckedStz.nil
  | e :: _ => concE e

theorem tr_PeekN (s : QS) (n : Int) : UnAckQueue_PeekN (conc s) n = (peekN s.q n).map concE := by
  unfold UnAckQueue_PeekN peekN
  simp only [conc, Bool.false_eq_true, ↓reduceIte, GoRT.len_map, GoRT.len_eq_zero, decide_eq_true_eq, beq_iff_eq]
  by_cases hn : n ≤ 0
  · simp [hn]
  · by_cases he : s.q = []
    · simp [hn, he]
    · by_cases hlt : GoRT.len s.q < n
      · -- fewer entries than asked for: the loop runs to `len`, and both sides are the whole queue
        simp only [hn, hlt, he, ↓reduceIte]
        rw [GoRT.forRange_collect _ _ (Int.le_of_eq (GoRT.len_map _ _).symm), List.take_of_length_le (by simp [GoRT.len]),
          List.take_of_length_le (by simp only [GoRT.len] at hlt; omega)]
      · simp only [hn, hlt, he, ↓reduceIte]
        rw [GoRT.forRange_collect _ _ (by rw [GoRT.len_map]; omega), List.map_take]

theorem tr_Peek (s : QS) : UnAckQueue_Peek (conc s) = optE (peek s.q) := by
  unfold UnAckQueue_Peek peek
  cases hq : s.q <;> simp [conc, hq, GoRT.len_eq_zero, GoRT.idx_zero, optE]

theorem tr_Empty (s : QS) : UnAckQueue_Empty (conc s) = s.q.isEmpty := by
  unfold UnAckQueue_Empty
  cases hq : s.q <;> simp [conc, hq, GoRT.len_eq_zero]

theorem tr_Pop (s : QS) :
    UnAckQueue_Pop (conc s) = (optE (pop s.q).1, conc ⟨(pop s.q).2, s.lastId⟩) := by
  unfold UnAckQueue_Pop
  rw [tr_Peek]
  cases hq : s.q <;> simp [conc, hq, peek, pop, optE, concE, UnAckedStz.nil, GoRT.sliceFrom]

theorem tr_PopN (s : QS) (n : Int) :
    UnAckQueue_PopN (conc s) n = (((popN s.q n).1).map concE, conc ⟨(popN s.q n).2, s.lastId⟩) := by
  unfold UnAckQueue_PopN
  rw [tr_PeekN]
  simp [conc, popN, GoRT.sliceFrom, GoRT.len]

/-- `Push`: for every non-nil argument (whatever its Id) the translated code appends the model's entry and moves
the counter; no error. -/
theorem tr_Push (s : QS) (x : String) (anyId : Int) :
    UnAckQueue_Push (conc s) { isNil := false, Id := anyId, Stz := x.toList } = (GoRT.Err.none, conc (pushS s x)) := by
  unfold UnAckQueue_Push pushS nextIdS
  simp only [conc, GoRT.idx_last, List.getLast?_map, bne_iff_ne, ne_eq, GoRT.len_eq_zero, List.map_eq_nil_iff]
  cases hq : s.q.getLast? with
  | none => simp [List.getLast?_eq_none_iff.mp hq, concE]
  | some e =>
    have hne : s.q ≠ [] := by intro h; simp [h] at hq
    simp [hne, concE]

/-- a nil argument (or, in Go, an element of another type) is refused and nothing changes -/
theorem tr_Push_nil (s : QS) : UnAckQueue_Push (conc s) UnAckedStz.nil = (GoRT.Err.plain, conc s) := by
  simp [UnAckQueue_Push, UnAckedStz.nil, conc]

/-- nil receiver: every method returns nil / true / no error and leaves nil (`Model.C17.stepNil`) -/
theorem tr_nil_receiver (n : Int) (x : UnAckedStz) :
    UnAckQueue_Peek UnAckQueue.nil = UnAckedStz.nil ∧ UnAckQueue_PeekN UnAckQueue.nil n = [] ∧
    UnAckQueue_Pop UnAckQueue.nil = (UnAckedStz.nil, UnAckQueue.nil) ∧ UnAckQueue_PopN UnAckQueue.nil n = ([], UnAckQueue.nil) ∧
    UnAckQueue_Push UnAckQueue.nil x = (GoRT.Err.none, UnAckQueue.nil) ∧ UnAckQueue_Empty UnAckQueue.nil = true := by
  simp [UnAckQueue_Peek, UnAckQueue_PeekN, UnAckQueue_Pop, UnAckQueue_PopN, UnAckQueue_Push, UnAckQueue_Empty, UnAckQueue.nil]

def outE : Op → QS → Out
  | op, s => (stepS s op).2

def goStep (u : UnAckQueue) : Op → UnAckQueue × List UnAckedStz × Bool
  | .push x  => let r := UnAckQueue_Push u { isNil := false, Id := 0, Stz := x.toList }; (r.2, [], r.1.isErr)
  | .pop     => let r := UnAckQueue_Pop u; (r.2, if r.1.isNil then [] else [r.1], false)
  | .popn k  => let r := UnAckQueue_PopN u k; (r.2, r.1, false)
  | .peek    => let r := UnAckQueue_Peek u; (u, if r.isNil then [] else [r], false)
  | .peekn k => (u, UnAckQueue_PeekN u k, false)
  | .empty   => (u, [], UnAckQueue_Empty u)

def outList : Out → List UnAckedStz × Bool
  | .ents es => (es.map concE, false)
  | .flag b => ([], b)

theorem optE_list (l : List Entry) (h : l.length ≤ 1) :
    (if (optE l).isNil then [] else [optE l]) = l.map concE := by
  match l, h with
  | [], _ => simp [optE, UnAckedStz.nil]
  | [e], _ => simp [optE, concE]

theorem tr_step (s : QS) (op : Op) :
    goStep (conc s) op = (conc (stepS s op).1, (outList (stepS s op).2).1, (outList (stepS s op).2).2) := by
  cases op with
  | push x => simp [goStep, tr_Push, stepS, outList]
  | pop =>
    have hl : (pop s.q).1.length ≤ 1 := by cases s.q <;> simp [pop]
    simp [goStep, tr_Pop, stepS, step, outList, optE_list _ hl]
  | popn k => simp [goStep, tr_PopN, stepS, step, outList]
  | peek =>
    have hl : (peek s.q).length ≤ 1 := by simp [peek]; omega
    simp [goStep, tr_Peek, stepS, step, outList, optE_list _ hl]
  | peekn k => simp [goStep, tr_PeekN, stepS, step, outList]
  | empty => simp [goStep, tr_Empty, stepS, step, outList]

def goRun (u : UnAckQueue) : List Op → UnAckQueue × List (List UnAckedStz × Bool)
  | [] => (u, [])
  | op :: ops =>
    let r := goStep u op
    let rest := goRun r.1 ops
    (rest.1, (r.2.1, r.2.2) :: rest.2)

/-- The translated methods, driven by an op list, compute what the model's `runS` computes (outputs compared through
`outList`): the refinement that carries every C17 / C10 theorem over to the translated code. -/
theorem tr_run (ops : List Op) : ∀ s : QS, goRun (conc s) ops = (conc (runS s ops).1, (runS s ops).2.map outList) := by
  induction ops with
  | nil => intro s; simp [goRun, runS]
  | cons op ops ih =>
    intro s
    simp only [goRun, tr_step, runS, ih]
    simp

/-- sequence numbers of the Go slice, head first -/
def goIds (u : UnAckQueue) : List Int := u.Uslice.map (·.Id)

/-- **C17 about the translated code**: after ANY operation sequence on a fresh queue, run through the translated
method bodies, the queued sequence numbers are strictly increasing, and the outputs are the model's (whose FIFO
behaviour is `Props.C17.C17_refines`). -/
theorem C17_translated_ids_increasing (ops : List Op) :
    List.Pairwise (· < ·) (goIds (goRun (conc ⟨[], 0⟩) ops).1) ∧
    (goRun (conc ⟨[], 0⟩) ops).2 = (runS ⟨[], 0⟩ ops).2.map outList := by
  rw [tr_run]
  refine ⟨?_, rfl⟩
  have h := List.Pairwise.map (fun n : Nat => (n : Int)) (S := (· < ·)) (by intro a b hab; omega)
    (Props.C17.C17_ids_increasing_fresh ops)
  simpa [goIds, conc, concE, Function.comp_def] using h

end XmppVerif.Tie.TrQueue
#print axioms XmppVerif.Tie.TrQueue.tr_PeekN
#print axioms XmppVerif.Tie.TrQueue.tr_Peek
#print axioms XmppVerif.Tie.TrQueue.tr_Pop
#print axioms XmppVerif.Tie.TrQueue.tr_PopN
#print axioms XmppVerif.Tie.TrQueue.tr_Push
#print axioms XmppVerif.Tie.TrQueue.tr_Push_nil
#print axioms XmppVerif.Tie.TrQueue.tr_Empty
#print axioms XmppVerif.Tie.TrQueue.tr_nil_receiver
#print axioms XmppVerif.Tie.TrQueue.tr_run
#print axioms XmppVerif.Tie.TrQueue.C17_translated_ids_increasing
