import XmppVerif.Gen.Queue
import XmppVerif.Gen.RouterSkeleton
/- Tie (regenerated facts) for C06: the order of the branches of `Router.route` (SMAnswer hook, IQ-result lookup,
ordinary match with return, feature-not-implemented), first-match loops of `Router.Match` / `Route.Match`, the type
tables of the matchers and the constants of the error reply. Of Gen/RouterSkeleton.lean only `route` is used here; the
extractor writes the lists about `Match`, the matchers and the error reply into Gen/Queue.lean. -/
namespace XmppVerif.Tie.C06
open XmppVerif.Gen.Queue XmppVerif.Gen.RouterSkeleton
theorem tie_route_order : route =
  ["if:case(*Client):SendMissingStz", "if:r.IQResultRouteLock.Lock", "if:if:delete", "if:r.IQResultRouteLock.Unlock",
   "if:if:send route.result", "if:if:close", "if:if:return", "if:match.Handler.HandlePacket", "if:return",
   "if:iqNotImplemented"] := rfl
theorem tie_first_match : routerMatch = ["for:if:return", "return"] ∧ routeMatch = ["for:m.Match", "for:if:return", "return"] := ⟨rfl, rfl⟩
theorem tie_matcher_types : nameMatcherCases = ["stanza.Message", "*stanza.IQ", "stanza.Presence"] ∧
    typeMatcherCases = ["*stanza.IQ", "stanza.Presence", "stanza.Message", "default"] := ⟨rfl, rfl⟩
theorem tie_error_reply : notImplementedErr.drop 1 = ["Code=501", "Type=\"cancel\"", "Reason=\"feature-not-implemented\""] := rfl
end XmppVerif.Tie.C06
#print axioms XmppVerif.Tie.C06.tie_route_order
#print axioms XmppVerif.Tie.C06.tie_first_match
#print axioms XmppVerif.Tie.C06.tie_matcher_types
#print axioms XmppVerif.Tie.C06.tie_error_reply
