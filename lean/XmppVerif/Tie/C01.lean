import XmppVerif.Gen.C01
import XmppVerif.Model.C01Stanza
/-
Tie (regenerated facts) for C01: what go/extract reads off stanza/*.go on every run equals what the model assumes:
the struct tags of the eight reflection-coded nonzas (as schemas), SMFailed's tagged name and `h` attribute, the
TypeRegistry.MapExtension calls, the case labels of SMFailed.UnmarshalXML with the XMLName tags of the types they
decode into, the attribute names read by the hand-written loops of Message / Presence / IQ / Err.
-/
namespace XmppVerif.Tie.C01
open XmppVerif.Model.C01

/-- a flat schema as go/extract prints it: (namespace, local name, [(attribute, Go type, omitempty)], has `,innerxml`) -/
abbrev RawSchema := String × String × List (String × String × Bool) × Bool

def kindOf : String × String × Bool → Option Field
  | (n, "string", om) => some ⟨n.toList, .str om⟩
  | (n, "uint", om) => some ⟨n.toList, .uint om⟩
  | (n, "*uint", true) => some ⟨n.toList, .uintPtr⟩
  | (n, "*bool", true) => some ⟨n.toList, .boolPtr⟩
  | _ => none

def interp (r : RawSchema) : Option Schema :=
  (r.2.2.1.mapM kindOf).map fun fs => ⟨⟨r.1.toList, r.2.1.toList⟩, fs, r.2.2.2⟩

theorem tie_schemas :
    interp Gen.C01.schemaSMEnable = some schemaSMEnable ∧ interp Gen.C01.schemaSMEnabled = some schemaSMEnabled ∧
    interp Gen.C01.schemaSMRequest = some schemaSMRequest ∧ interp Gen.C01.schemaSMAnswer = some schemaSMAnswer ∧
    interp Gen.C01.schemaSMResumed = some schemaSMResumed ∧ interp Gen.C01.schemaSMResume = some schemaSMResume ∧
    interp Gen.C01.schemaSASLAuth = some schemaSASLAuth ∧ interp Gen.C01.schemaHandshake = some schemaHandshake := by
  decide +kernel

/-- SMFailed: name, the `h` attribute (*uint, omitempty), then the untagged interface field -/
theorem tie_smfailed_struct :
    Gen.C01.schemaSMFailed = ("urn:xmpp:sm:3", "failed", [("h", "*uint", true), ("<unsupported:StreamErrorGroup>", "", false)], false) ∧
    nsSM = "urn:xmpp:sm:3".toList := by decide

theorem tie_registry : Gen.C01.registry.map (fun e => (e.1, e.2.1, e.2.2.1)) = registry := by decide +kernel

theorem tie_smfailed_cases :
    Gen.C01.smFailedCases.map (fun p => p.1.toList) = smFailedConds ∧
    Gen.C01.smFailedCases.all (fun p => p.2 == String.ofList nsStanzas ++ " " ++ p.1) = true := by
  refine ⟨?_, by decide +kernel⟩
  -- both tables are `toList` of string literals: compare the literals, not their characters
  have h : ∀ l : List (String × String), l.map (fun p => p.1.toList) = (l.map (·.1)).map String.toList := by
    intro l; rw [List.map_map]; rfl
  rw [h, smFailedConds]
  exact congrArg _ (by decide +kernel)

theorem tie_attr_loops :
    Gen.C01.attrsReadMessage = ["id", "type", "to", "from", "lang"] ∧
    Gen.C01.attrsReadPresence = ["id", "type", "to", "from", "lang"] ∧
    Gen.C01.attrsReadIQ = ["id", "type", "to", "from", "lang"] ∧
    Gen.C01.attrsReadErr = ["type", "code"] := by decide

end XmppVerif.Tie.C01
#print axioms XmppVerif.Tie.C01.tie_schemas
#print axioms XmppVerif.Tie.C01.tie_smfailed_struct
#print axioms XmppVerif.Tie.C01.tie_registry
#print axioms XmppVerif.Tie.C01.tie_smfailed_cases
#print axioms XmppVerif.Tie.C01.tie_attr_loops
