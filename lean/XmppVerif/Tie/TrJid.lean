import XmppVerif.GoRT
import XmppVerif.Gen.TrStanza
import XmppVerif.Model.C15
import XmppVerif.Props.C15
/-
Tie by TRANSLATION for C15: the bodies of `NewJid`, `Jid.Full`, `Jid.Bare`, `isUsernameValid`, `isDomainValid` and
`isInvalid` (stanza/jid.go), translated to Lean by go/extract/tr.go on every run (`Gen/TrStanza.lean`), are proved
equal to the hand-written model `Model.C15`, for ALL strings of code points.
-/
namespace XmppVerif.Tie.TrJid
open XmppVerif XmppVerif.Model.C15

def concJ (m : Model.C15.Jid) : Gen.TrStanza.Jid := { isNil := false, Node := m.node, Domain := m.domain, Resource := m.resource }

theorem isSpace_eq (c : Char) : GoRT.unicode_IsSpace c = isSpace c := rfl

theorem isInvalid_eq (bad : List Char) : Gen.TrStanza.isInvalid bad = invalidIn bad := by
  funext c
  unfold Gen.TrStanza.isInvalid invalidIn
  rw [isSpace_eq, GoRT.forEach, GoRT.forEachAux_any (c == ·) (.ret true) _ () (fun _ _ => rfl), ← List.contains_eq_any_beq]
  cases isSpace c <;> cases bad.contains c <;> rfl

theorem tr_isUsernameValid (u : List Char) : Gen.TrStanza.isUsernameValid u = isUsernameValid u := by
  rw [Gen.TrStanza.isUsernameValid, GoRT.indexFunc_neg, isInvalid_eq]
  rfl

theorem tr_isDomainValid (d : List Char) : Gen.TrStanza.isDomainValid d = isDomainValid d := by
  rw [Gen.TrStanza.isDomainValid, GoRT.indexFunc_neg, isInvalid_eq]
  cases d <;> simp [GoRT.len_eq_zero, isDomainValid, domainForbidden]

theorem cut_single (c : Char) : ∀ s : List Char, GoRT.cut [c] s = splitFirst c s
  | [] => by simp [GoRT.cut, splitFirst]
  | x :: xs => by
    simp only [GoRT.cut, splitFirst, GoRT.isPrefix_single, cut_single c xs, beq_iff_eq, List.length_singleton,
      List.drop_succ_cons, List.drop_zero]

theorem splitN_eq_splitFirst (c : Char) (s : List Char) : GoRT.strings_SplitN s [c] 2 =
    match splitFirst c s with
    | (a, none) => [a]
    | (a, some b) => [a, b] := by
  have h1 : GoRT.strings_SplitN s [c] 2 = GoRT.splitGo [c] 1 s := by simp [GoRT.strings_SplitN]
  rw [h1, GoRT.splitGo, cut_single]
  rcases h : splitFirst c s with ⟨a, _ | b⟩ <;> simp [GoRT.splitGo]

theorem tr_Bare (m : Model.C15.Jid) : Gen.TrStanza.Jid_Bare (concJ m) = bare m := by
  unfold Gen.TrStanza.Jid_Bare bare
  by_cases h : m.node = [] <;> simp [concJ, h]

theorem tr_Full (m : Model.C15.Jid) : Gen.TrStanza.Jid_Full (concJ m) = full m := by
  unfold Gen.TrStanza.Jid_Full full
  rw [tr_Bare]
  by_cases h : m.resource = [] <;> by_cases h2 : m.node = [] <;> simp [concJ, h, h2]

theorem jid_default : (default : Gen.TrStanza.Jid) = { isNil := false, Node := [], Domain := [], Resource := [] } := rfl

/-- `NewJid`: the error flag is exactly "the model rejects", and on success the fields are the model's. -/
theorem tr_NewJid (s : List Char) :
    (Gen.TrStanza.NewJid s).2 = (if (newJid s).isNone then GoRT.Err.plain else GoRT.Err.none) ∧ ∀ m, newJid s = some m → (Gen.TrStanza.NewJid s).1 = concJ m := by
  unfold Gen.TrStanza.NewJid newJid afterAt finish
  simp only [splitN_eq_splitFirst, tr_isUsernameValid, tr_isDomainValid, jid_default]
  by_cases hs : s = []
  · simp [hs]
  · simp only [hs, beq_iff_eq, ↓reduceIte]
    rcases Props.C15.first_cut '@' s with hat | ⟨a, rest, rfl, hcut⟩
    · -- no '@': a domain JID
      simp only [Props.C15.splitFirst_of_not_mem '@' s hat, GoRT.len, List.length_singleton, GoRT.idx_zero]
      rcases Props.C15.first_cut '/' s with hsl | ⟨d, r, rfl, hd⟩
      · simp only [Props.C15.splitFirst_of_not_mem '/' s hsl, GoRT.idx_zero]
        cases isUsernameValid ([] : List Char) <;> cases isDomainValid s <;> simp [concJ]
      · simp only [Props.C15.splitFirst_at_first '/' r d hd, GoRT.idx_zero, GoRT.idx_one]
        cases isUsernameValid ([] : List Char) <;> cases isDomainValid d <;> simp [concJ]
    · simp only [Props.C15.splitFirst_at_first '@' rest a hcut, GoRT.len, GoRT.idx_zero, GoRT.idx_one]
      by_cases ha : a = []
      · simp [ha]
      · by_cases hr : rest = []
        · simp [ha, hr]
        · rcases Props.C15.first_cut '/' rest with hsl | ⟨d, r, rfl, hd⟩
          · simp only [Props.C15.splitFirst_of_not_mem '/' rest hsl, GoRT.idx_zero]
            cases isUsernameValid a <;> cases isDomainValid rest <;> simp [ha, hr, concJ]
          · simp only [Props.C15.splitFirst_at_first '/' r d hd, GoRT.idx_zero, GoRT.idx_one]
            cases isUsernameValid a <;> cases isDomainValid d <;> simp [ha, hr, concJ]

/-- **C15 about the translated code**: whatever string `NewJid` accepts, formatting the result with `Full()` and
parsing again yields the same three parts and no error. -/
theorem C15_translated_full_roundtrip (s : List Char) (h : (Gen.TrStanza.NewJid s).2 = GoRT.Err.none) :
    Gen.TrStanza.NewJid (Gen.TrStanza.Jid_Full (Gen.TrStanza.NewJid s).1) = ((Gen.TrStanza.NewJid s).1, GoRT.Err.none) := by
  have ⟨he, hm⟩ := tr_NewJid s
  rw [h] at he
  cases hn : newJid s with
  | none => simp [hn] at he
  | some m =>
    have h1 := hm m hn
    have hrt := Props.C15.C15_full_rt s m hn
    have ⟨he2, hm2⟩ := tr_NewJid (full m)
    rw [h1, tr_Full]
    apply Prod.ext
    · exact hm2 m hrt
    · simp [he2, hrt]

/-- an accepted string has a non-empty domain without '@', '/' or white space, and a local part without the forbidden
characters (the translated validators are the model's) -/
theorem C15_translated_rejects_empty : (Gen.TrStanza.NewJid []).2.isErr = true := by
  have := (tr_NewJid []).1
  rw [this]
  simp [Props.C15.C15_rejects_empty]

end XmppVerif.Tie.TrJid
#print axioms XmppVerif.Tie.TrJid.tr_NewJid
#print axioms XmppVerif.Tie.TrJid.tr_Full
#print axioms XmppVerif.Tie.TrJid.tr_Bare
#print axioms XmppVerif.Tie.TrJid.tr_isUsernameValid
#print axioms XmppVerif.Tie.TrJid.tr_isDomainValid
#print axioms XmppVerif.Tie.TrJid.C15_translated_full_roundtrip
#print axioms XmppVerif.Tie.TrJid.C15_translated_rejects_empty
