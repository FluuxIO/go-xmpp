import XmppVerif.Fx
import XmppVerif.Gen.Fx
import XmppVerif.Model.C16
/-
Tie (regenerated MODEL, trace semantics): what the entry points announce, start and return - on EVERY path.

`Fx.traces` enumerates every complete trace (acts in order, then the return label) of a body without loops;
`Fx.allTraces_sound` lifts a decidable predicate checked on that list to every run of the skeleton (`Runs traceSem`).
The skeletons are regenerated from /repo's working tree on every run (Gen/Fx.lean). Conditions are not interpreted:
"every path" includes paths no execution takes, so what is proved here holds a fortiori for the executions.
-/
namespace XmppVerif.Tie.FxConn
open XmppVerif.Fx XmppVerif.Gen.Fx

/-- A name that `Gen.Fx.all` does not hold reads as the body `return missing`. `resumeOk`, `connectOk`, `newSessionOk` and the
predicate of `stop_every_path` refuse that body (each demands an act of its function); `innerConnectOk`, `guardedBy` and
`fun t => t.length == 1` accept it: for them the presence of the name is not part of the statement (for NewClient it
follows from the third conjunct of `new_client_keeps_the_address`). -/
def get (name : String) : Fx.Fx := (XmppVerif.Gen.Fx.all.lookup name).getD (.ret "missing")

def callNamed (p : String → Bool) : Act → Bool | .call w => p w | _ => false
def isAnnouncement : Act → Bool :=
  callNamed fun w => w.startsWith "Component.updateState(" || w.startsWith "Component.streamError("
def established : Act := .call "Component.updateState(StateSessionEstablished)"

/-- C16 on every path of Component.Resume -/
def resumeOk (t : List Act) : Bool :=
  let anns := t.filter isAnnouncement
  let est := anns == [established]
  anns.length == 1 &&
  (t.any isSpawn == est) &&
  (t.filter isSpawn == if est then [.spawn "Component.recv"] else []) &&
  (!est || (t.contains .write && t.contains (.call "stanza.NextPacket") && retLabel t == "error" &&
            noneAfter (· == established) (fun a => a == .write || a == .call "stanza.NextPacket") t)) &&
  (est || (retLabel t).startsWith "NewConnError(")

theorem component_resume_every_path : allTraces (get "Component.Resume") resumeOk = true := by decide +kernel

/-- **Every run of Component.Resume** announces exactly one state, starts the receive loop exactly when that state is
"session established", and returns an error it has just built on every other path. -/
theorem component_resume_every_run :
    ∀ l t, Runs traceSem (get "Component.Resume") [] (.ret l t) → resumeOk t = true :=
  allTraces_sound _ _ component_resume_every_path

/-- (error: none | some permanent, states announced, handshake written, receive loop started) -/
abbrev ResumeAbs := Option Bool × List Model.C16.ConnState × Bool × Bool

def stateOfCall (w : String) : Option Model.C16.ConnState :=
  if w == "Component.updateState(StateSessionEstablished)" then some .sessionEstablished
  else if w == "Component.updateState(StatePermanentError)" then some .permanentError
  else if w == "Component.updateState(StateStreamError)" then some .streamError
  else if w.startsWith "Component.streamError(" then some .streamError
  else none

def absOfTrace (t : List Act) : ResumeAbs :=
  let err : Option Bool :=
    if t.contains (.call "NewConnError(_,true)") then some true
    else if t.contains (.call "NewConnError(_,false)") then some false else none
  (err, t.filterMap (fun a => match a with | .call w => stateOfCall w | _ => none), t.contains .write, t.any isSpawn)

def absOfModel (r : Model.C16.Result) : ResumeAbs := (r.err, r.states, r.sentDigest.isSome, r.recvStarted)

/-- every class of input of the model: what Connect did, whether the handshake could be written, the reply -/
def resumeInputs : List (Model.C16.Connect × Bool × Model.C16.Reply) :=
  [(.refused, true, .handshake), (.noStream, true, .handshake), (.opened [], false, .handshake),
   (.opened [], true, .handshake), (.opened [], true, .streamError), (.opened [], true, .other),
   (.opened [], true, .decodeError)]

def sameAbs (a b : List ResumeAbs) : Bool := a.all b.contains && b.all a.contains

/-- **`Model.C16.resume` = the regenerated `Component.Resume`** (as sets of abstract outcomes): every case of the model
is a path of the code - same error class, same announcement, handshake written or not, receive loop started or not -
and the code has no other path. (A failed write is reported without the digest in the model: `sentDigest = none` there
means "not on the wire"; the code has attempted the write - the abstraction of the model's `writeOk = false` case says
"written" for that reason.) -/
theorem component_model_is_the_code :
    ((traces (get "Component.Resume")).map fun ts =>
      sameAbs (ts.map absOfTrace)
        (resumeInputs.map fun (c, w, r) =>
          let m := absOfModel (Model.C16.resume c [] w r)
          if w then m else (m.1, m.2.1, true, m.2.2.2))) = some true := by decide +kernel

def hooks : List String := ["Client.PostConnectHook", "Client.PostResumeHook"]

/-- Client.Connect / Client.Resume on every path (C03, C18, C12) -/
def connectOk (t : List Act) : Bool :=
  let sp := t.filter isSpawn
  (sp == [] || sp == [.spawn "keepalive", .spawn "Client.recv"]) &&
  -- nothing is started before connect() was called, nor before the application's hook has run
  noneAfter isSpawn (fun a => isCall ("Client.connect" :: hooks) a) t &&
  -- a path that starts them returns right after: keepalive, receiver, return
  (sp == [] || (t.dropWhile (fun a => !isSpawn a)).length == 3) &&
  -- a path that has written the initial presence - the session is established and announced - either starts the
  -- receiver and the keepalive or returns the error of the application's hook; there is no third way out (a session
  -- without a receiver would never report its loss)
  (!t.contains .write || sp != [] || t.any (isCall hooks)) &&
  t.contains (.call "Client.connect")

theorem client_connect_every_path :
    allTraces (get "Client.Connect") connectOk = true ∧ allTraces (get "Client.Resume") connectOk = true := by decide +kernel

theorem client_connect_every_run :
    (∀ l t, Runs traceSem (get "Client.Connect") [] (.ret l t) → connectOk t = true) ∧
    (∀ l t, Runs traceSem (get "Client.Resume") [] (.ret l t) → connectOk t = true) :=
  ⟨allTraces_sound _ _ client_connect_every_path.1, allTraces_sound _ _ client_connect_every_path.2⟩

def sessEst : Act := .call "Client.updateState(StateSessionEstablished)"

/-- Client.connect on every path (C03, C04, C13) -/
def innerConnectOk (t : List Act) : Bool :=
  let est := t.contains sessEst
  let disc := t.contains (.call "Client.Disconnect")
  -- established exactly on the path that called NewSession and did not disconnect
  (est == (t.contains (.call "NewSession") && !disc)) &&
  -- the failure path: decoder taken, THEN the clean-up goroutine, THEN Disconnect; nothing is announced
  (!disc || ((t.filter fun a => a == .call "Transport.GetDecoder" || isSpawn a || a == .call "Client.Disconnect") ==
              [.call "Transport.GetDecoder", .spawn "func literal", .call "Client.Disconnect"])) &&
  (est || !(t.any (callNamed fun w => w.startsWith "Client.updateState("))) &&
  (!est || !(t.any isSpawn))

theorem client_inner_connect_every_path : allTraces (get "Client.connect") innerConnectOk = true := by decide +kernel

theorem client_inner_connect_every_run :
    ∀ l t, Runs traceSem (get "Client.connect") [] (.ret l t) → innerConnectOk t = true :=
  allTraces_sound _ _ client_inner_connect_every_path

/-- the negotiation steps of NewSession, in RFC 6120 order (stream restarts included) -/
def stepOrder : List String :=
  ["Session.init", "Session.startTlsIfSupported", "Session.reset", "Session.auth", "Session.reset", "Session.resume",
   "Session.bind", "Session.rfc3921Session", "Session.EnableStreamManagement"]

def isSubseq : List String → List String → Bool
  | [], _ => true
  | _ :: _, [] => false
  | x :: xs, y :: ys => if x == y then isSubseq xs ys else isSubseq (x :: xs) ys

def stepsOf (t : List Act) : List String :=
  t.filterMap fun | .call w => if w.startsWith "Session." then some w else none | _ => none

/-- NewSession on every path (C03: "the client's own requests always appear in RFC 6120 order, each sent only after the
previous step was confirmed"; C04: the TLS gate sits before authentication) -/
def newSessionOk (t : List Act) : Bool :=
  let st := stepsOf t
  -- the steps taken are the canonical ones, in order, none twice (but the stream restart)
  isSubseq st stepOrder && st.head? == some "Session.init" &&
  -- nothing after a step is skipped over: a path that binds has authenticated, restarted the stream and tried to resume
  (!st.contains "Session.bind" || (st.contains "Session.auth" && st.contains "Session.resume")) &&
  (!st.contains "Session.resume" || st.contains "Session.auth") &&
  (!st.contains "Session.rfc3921Session" || st.contains "Session.bind") &&
  (!st.contains "Session.EnableStreamManagement" || st.contains "Session.rfc3921Session") &&
  -- the TLS gate (the permanent error built when the transport is not secure and Insecure is off) comes before auth:
  -- a path that reaches auth has looked at IsSecure twice (before STARTTLS, at the gate) and built no such error
  (!st.contains "Session.auth" || (cnt2 (.call "Transport.IsSecure") t == 2 && !t.any gateError)) &&
  -- a path that builds the gate's error authenticates nothing
  (!t.any gateError || !st.contains "Session.auth")
where
  cnt2 (a : Act) (t : List Act) : Nat := (t.filter (· == a)).length
  gateError : Act → Bool := callNamed fun w => w.startsWith "fmt.Errorf("

theorem new_session_every_path : allTraces (get "NewSession") newSessionOk = true := by decide +kernel

theorem new_session_every_run :
    ∀ l t, Runs traceSem (get "NewSession") [] (.ret l t) → newSessionOk t = true :=
  allTraces_sound _ _ new_session_every_path

example : newSessionOk [.call "Session.init", .call "Transport.IsSecure", .call "Transport.IsSecure", .call "Session.auth",
    .call "Session.reset", .call "Session.resume", .call "Session.bind", .call "Session.EnableStreamManagement",
    .call "Session.rfc3921Session", .call "return s, s.err"] = false := by decide +kernel

/-- every call whose name begins with `w` sits inside the then-side of a branch on exactly the condition `cond` -/
def guardedBy (cond w : String) : Fx.Fx → Bool → Bool
  | .ret _, _ => true
  | .act (.call x) k, ins => (!(x.startsWith w) || ins) && guardedBy cond w k ins
  | .act _ k, ins => guardedBy cond w k ins
  | .branch c t e, ins => guardedBy cond w t (ins || c == cond) && guardedBy cond w e ins
  | .loop b k, ins => guardedBy cond w b ins && guardedBy cond w k ins
  | .brk, _ => true
  | .cont, _ => true

/-- NewClient (C20): the address the application configured is looked up in the DNS (SRV) only when it configured NONE -
the look-up, and the assignment of its result, sit under `config.Address == ""` and nowhere else; NewComponent calls
nothing that could refuse or rewrite an address (it only stores its options). -/
theorem new_client_keeps_the_address :
    guardedBy "(config.Address==\"\")" "net.LookupSRV" (get "NewClient") false = true ∧
    guardedBy "(config.Address==\"\")" "ensurePort" (get "NewClient") false = true ∧
    (get "NewClient").mentions (.call "net.LookupSRV(\"xmpp-client\",\"tcp\",_)") = true ∧
    allTraces (get "NewComponent") (fun t => t.length == 1) = true := by decide +kernel

/-- StreamManager.Stop (C13): handler removed, client disconnected, Run released - in this order, on its only path -/
theorem stop_every_path :
    allTraces (get "StreamManager.Stop") (fun t =>
      (t.filter (callNamed fun w => w.startsWith "StreamClient.SetHandler" || w == "StreamClient.Disconnect" || w == "WaitGroup.Done")) ==
        [.call "StreamClient.SetHandler(nil)", .call "StreamClient.Disconnect", .call "WaitGroup.Done"]) = true := by decide +kernel

-- the predicates are not vacuous: they refuse a keepalive started before the hook, a receive loop started on the
-- stream-error arm, an established state announced after a failed NewSession
example : connectOk [.call "Client.connect", .spawn "keepalive", .call "Client.PostResumeHook", .call "return error"] = false := by decide
example : resumeOk [.write, .call "stanza.NextPacket", .call "Component.streamError(\"conflict\",\"no auth loop\")", .spawn "Component.recv",
    .call "return NewConnError(x)"] = false := by decide +kernel
example : innerConnectOk [.call "Transport.Connect", .call "NewSession", .call "Transport.GetDecoder", .spawn "func literal",
    .call "Client.Disconnect", sessEst, .call "return err"] = false := by decide +kernel
example : ((traces (get "Component.Resume")).map fun ts => decide (6 ≤ ts.length)) = some true := by decide +kernel

end XmppVerif.Tie.FxConn
#print axioms XmppVerif.Fx.traces_sound
#print axioms XmppVerif.Fx.allTraces_sound
#print axioms XmppVerif.Tie.FxConn.component_resume_every_path
#print axioms XmppVerif.Tie.FxConn.component_resume_every_run
#print axioms XmppVerif.Tie.FxConn.client_connect_every_path
#print axioms XmppVerif.Tie.FxConn.client_connect_every_run
#print axioms XmppVerif.Tie.FxConn.client_inner_connect_every_path
#print axioms XmppVerif.Tie.FxConn.client_inner_connect_every_run
#print axioms XmppVerif.Tie.FxConn.stop_every_path
#print axioms XmppVerif.Tie.FxConn.new_session_every_path
#print axioms XmppVerif.Tie.FxConn.new_session_every_run
#print axioms XmppVerif.Tie.FxConn.component_model_is_the_code
#print axioms XmppVerif.Tie.FxConn.new_client_keeps_the_address
