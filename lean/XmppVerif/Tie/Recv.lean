import XmppVerif.Gen.RecvSwitch
/-
Tie (regenerated facts) for C05 / C09 / C12: the shape of `Client.recv` and `Component.recv` that the model
`Model/Recv.lean` transcribes. These are the facts a correspondence run cannot establish by sampling: that routing
happens in its own goroutine for the client and synchronously for the component, that the close of the keepalive's
quit channel is deferred and precedes every report of the loss, which case arms return, and which packet types
increment the inbound counter.
How to read an action list (`actions` / `actionsDeep` in go/extract/more.go): the calls of the function body in source
order, named by callee - those of expression statements, of the right-hand sides of assignments, of returned values and of
the init statement of an `if`; a call in the CONDITION of an `if` is not listed, nor are conversions and builtins - with
`go f`, `defer f(args)`, `return`, `x++`, `send ch`. Each entry is prefixed by the statements it is nested in: `if:` (the
then-branch), `else:`, `for:`, `case:` (an arm of a switch), `case(T):` (of a type switch; `case():` is its default),
`select(ch):`. A prefix does not say WHICH `if` or arm: two entries with the same prefix may sit in different statements.
A `…Conds` list holds the conditions of the `if` statements in source order, a `…FuncLits` list the action lists of the
function literals of the body, and a list named after a field (`…Secure`) the assignments to that field among the calls.
-/
namespace XmppVerif.Tie.Recv
open XmppVerif.Gen.RecvSwitch

/-- the close of the keepalive's quit channel is deferred (under a sync.Once: `stopKeepalive`), and every exit of the
loop calls it BEFORE it reports the loss (F-18b) -/
theorem tie_client_defers : clientDefers = ["stopKeepalive()"] ∧ clientRecvFuncLits = [["once.Do"]] := ⟨rfl, rfl⟩
theorem tie_client_err : clientErrBranch = ["stopKeepalive", "c.ErrorHandler", "c.disconnected", "return"] := rfl
theorem tie_client_cases : clientCases =
  [(["stanza.StreamError"], ["c.router.route", "c.streamError", "c.ErrorHandler", "c.Disconnect"]),
   (["stanza.SMRequest"], ["c.Send", "if:stopKeepalive", "if:c.ErrorHandler", "if:c.disconnected", "if:return"]),
   (["stanza.StreamClosePacket"], ["stopKeepalive", "c.transport.ReceivedStreamClose", "c.disconnected", "return"]),
   (["stanza.Message", "stanza.Presence", "*stanza.IQ"], ["c.Session.SMState.Inbound++"])] := rfl
theorem tie_client_after : clientAfterSwitch = ["go c.router.route"] := rfl
theorem tie_component_err : componentErrBranch = ["c.updateState", "c.ErrorHandler", "return"] := rfl
theorem tie_component_cases : componentCases =
  [(["stanza.StreamError"], ["c.router.route", "c.streamError", "c.ErrorHandler", "c.Disconnect"]),
   (["stanza.StreamClosePacket"], ["c.transport.ReceivedStreamClose", "return"])] := rfl
theorem tie_component_after : componentAfterSwitch = ["c.router.route"] := rfl
end XmppVerif.Tie.Recv
#print axioms XmppVerif.Tie.Recv.tie_client_defers
#print axioms XmppVerif.Tie.Recv.tie_client_err
#print axioms XmppVerif.Tie.Recv.tie_client_cases
#print axioms XmppVerif.Tie.Recv.tie_client_after
#print axioms XmppVerif.Tie.Recv.tie_component_err
#print axioms XmppVerif.Tie.Recv.tie_component_cases
#print axioms XmppVerif.Tie.Recv.tie_component_after
