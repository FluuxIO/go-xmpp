import XmppVerif.Gen.Consts
import XmppVerif.Model.C15
/- Tie (regenerated facts): the forbidden-rune lists of isUsernameValid / isDomainValid in stanza/jid.go. -/
namespace XmppVerif.Tie.C15
open XmppVerif.Gen.Consts
theorem tie_forbidden :
    jidUserForbidden = XmppVerif.Model.C15.userForbidden.map Char.toNat ∧
    jidDomainForbidden = XmppVerif.Model.C15.domainForbidden.map Char.toNat := ⟨rfl, rfl⟩
end XmppVerif.Tie.C15
#print axioms XmppVerif.Tie.C15.tie_forbidden
