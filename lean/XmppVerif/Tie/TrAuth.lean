import XmppVerif.GoRT
import XmppVerif.Gen.TrRoot
import XmppVerif.Model.C14
/-
Tie by TRANSLATION for C14 (mechanism choice): the bodies of `authSASL` and `isSupportedMech` (auth.go), translated to
Lean by go/extract/tr.go on every run (`Gen/TrRoot.lean`). `authPlain` - the function that writes the `<auth/>`
element and reads the reply - is NOT entered: it is the parameter `ext` of the translated `authSASL`, and the theorem
holds for every function in its place: `authSASL` calls it exactly when the model selects an implemented mechanism,
with that mechanism, the user name and the credential's secret unchanged, and otherwise returns a permanent
connection error without calling it.
-/
namespace XmppVerif.Tie.TrAuth
open XmppVerif XmppVerif.Gen.TrRoot

theorem tr_isSupportedMech (m : List Char) (offered : List (List Char)) :
    isSupportedMech m offered = decide (m ∈ offered) := by
  unfold isSupportedMech GoRT.forEach
  rw [GoRT.forEachAux_any (m == ·) (.ret true) _ () (fun _ _ => rfl), ← List.contains_eq_any_beq, List.contains_eq_mem]
  cases decide (m ∈ offered) <;> rfl

def selectMech (credMechs offered : List (List Char)) : Option (List Char) := credMechs.find? fun m => decide (m ∈ offered)
def implemented (m : List Char) : Bool := m == "PLAIN".toList || m == "X-OAUTH2".toList

/-- **Mechanism choice, translated code**, for every function `ext` in the place of `authPlain`. -/
theorem tr_authSASL (ext : List Char → List Char → List Char → GoRT.Err) (f : stanza_StreamFeatures)
    (user : List Char) (cred : Credential) :
    authSASL ext f user cred =
      match selectMech cred.mechanisms f.Mechanisms.Mechanism with
      | some m => if implemented m then ext m user cred.secret else GoRT.Err.conn true
      | none => GoRT.Err.conn true := by
  unfold authSASL GoRT.forEach selectMech implemented
  simp only
  -- the loop breaks with the first mechanism of the credential that the server offers
  rw [GoRT.forEachAux_find (fun m => decide (m ∈ f.Mechanisms.Mechanism)) (fun m => .fin m) _ _
    (fun _ m => by rw [tr_isSupportedMech]; rfl)]
  cases cred.mechanisms.find? fun m => decide (m ∈ f.Mechanisms.Mechanism) with
  | none => rfl
  | some m =>
    -- the literals as character lists, without unfolding `"…".toList` (the reason is at `Tie.TrRouter.lit_message`)
    rw [String.toList_ofList, String.toList_ofList]

/-- the translated selection agrees with `Model.C14.selectMech` (strings there, code points here) -/
theorem selectMech_model (cm off : List String) :
    selectMech (cm.map String.toList) (off.map String.toList) = (Model.C14.selectMech cm off).map String.toList := by
  unfold selectMech Model.C14.selectMech
  rw [List.find?_map]
  simp [Function.comp_def, String.toList_inj]

end XmppVerif.Tie.TrAuth
#print axioms XmppVerif.Tie.TrAuth.tr_isSupportedMech
#print axioms XmppVerif.Tie.TrAuth.tr_authSASL
#print axioms XmppVerif.Tie.TrAuth.selectMech_model
