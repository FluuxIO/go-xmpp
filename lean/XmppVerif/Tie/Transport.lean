import XmppVerif.Gen.Transport
/-
Tie (regenerated facts) for `Model.Transport`:
- `XMPPTransport.Close` writes the closing tag WITHOUT looking at the result (no return in that branch) and then
  closes the connection (the wait for the server's closing tag in between is a `select` with empty arms: it leaves no
  action in the list, so `TAct.waitCloseTag` of the model is not tied);
- `WebsocketTransport.Close` writes `<close/>` and runs `cleanup`, which closes the connection and cancels the read
  context and does NOT close the queue channel (a second Close, or the reader delivering at that moment, would
  panic: F-05d);
- the reader goroutine reads every message to its end (`ioutil.ReadAll`, all frames: F-05c) and stops when the
  transport is closed;
- `WebsocketTransport.Read` returns an error once the context is cancelled, after it has polled the queue;
- the TLS gate of `NewSession` (`tie_ws_gate`) and what `StartTLS` switches to the TLS connection
  (`tie_starttls_switches_everything`).
(How to read an action or condition list: head of Tie/Recv.lean.)
-/
namespace XmppVerif.Tie.Transport
open XmppVerif.Gen.Transport

theorem tie_xmpp_close : xmppClose =
  ["if:t.readWriter.Write", "if:[]byte", "if:t.conn.Close", "if:return", "return"] := rfl

theorem tie_ws_close : wsClose = ["t.Write", "[]byte", "t.cleanup", "return"] ∧
    wsCleanup = ["if:t.wsConn.Close", "if:t.closeFunc", "return"] := ⟨rfl, rfl⟩

theorem tie_ws_reader : wsStartReader =
  [["for:t.wsConn.Reader", "for:if:return", "for:ioutil.ReadAll", "for:if:return",
    "for:if:select(<-t.closeCtx.Done()):return"]] := rfl

/-- `WebsocketTransport.Read` (F-05e): first a non-blocking receive from the queue (`default:` is not an
action), then the blocking select whose `closeCtx.Done()` arm polls the queue once more before it returns the error -/
theorem tie_ws_read : wsRead =
  ["select(<-t.queue):t.deliver", "select(<-t.queue):return",
   "select(<-t.closeCtx.Done()):select(<-t.queue):t.deliver", "select(<-t.closeCtx.Done()):select(<-t.queue):return",
   "select(<-t.closeCtx.Done()):t.closeCtx.Err", "select(<-t.closeCtx.Done()):return",
   "select(<-t.queue):t.deliver", "select(<-t.queue):return"] := rfl

/-- The TLS gate of `NewSession` does not depend on the kind of transport: STARTTLS is attempted whenever the
transport is not secure, and the gate `!IsSecure() && !Insecure` follows unconditionally (it is not nested in a
test for STARTTLS support); `startTlsIfSupported` records an error when the transport cannot do STARTTLS and insecure
connections are not allowed. The WebSocket transport never does STARTTLS and is secure iff its URL says `wss:`.
The condition lists are cut (`take`) after the gate: the later conditions belong to the negotiation that follows. -/
theorem tie_ws_gate :
    wsDoesStartTLS = ["false"] ∧
    wsIsSecure = ["strings.HasPrefix(t.Config.Address,\"wss:\")"] ∧
    newSessionConds.take 4 = ["(c.Session==nil)", "(s.err!=nil)", "!c.transport.IsSecure()",
                              "(!c.transport.IsSecure()&&!c.config.Insecure)"] ∧
    startTlsConds.take 3 = ["(s.err!=nil)", "!s.transport.DoesStartTLS()", "!o.Insecure"] := ⟨rfl, rfl, rfl, rfl⟩

/-- After a successful handshake `StartTLS` switches EVERYTHING to the TLS connection: `t.conn` (which `Ping`
writes the keepalive to) and `t.readWriter` (a NEW stream logger around the TLS connection, which the decoder is
rebuilt on). A keepalive or a logged stream that stayed on the TCP socket would be clear text under TLS. -/
theorem tie_starttls_switches_everything :
    startTLSConn = ["tlsConn.Handshake", "t.conn=tlsConn", "newStreamLogger"] ∧
    startTLSReadWriter = ["tlsConn.Handshake", "t.readWriter=newStreamLogger(tlsConn,t.logFile)"] ∧
    -- Ping: a guard for a transport without a connection (a failed dial leaves none - F-18b), then the write to t.conn
    xmppPingWrites.take 2 = ["if:return", "t.conn.Write"] := ⟨rfl, rfl, rfl⟩

end XmppVerif.Tie.Transport
#print axioms XmppVerif.Tie.Transport.tie_xmpp_close
#print axioms XmppVerif.Tie.Transport.tie_ws_close
#print axioms XmppVerif.Tie.Transport.tie_ws_reader
#print axioms XmppVerif.Tie.Transport.tie_ws_read
#print axioms XmppVerif.Tie.Transport.tie_ws_gate
#print axioms XmppVerif.Tie.Transport.tie_starttls_switches_everything
