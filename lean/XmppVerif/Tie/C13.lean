import XmppVerif.Gen.Supervisor
/-
Tie (regenerated facts) for C13 - the facts about WHO starts WHAT that a correspondence run can only sample:
- `Client.Resume` starts the keepalive and the receive loop (F-13a);
- the clean-up goroutine of a failed `Client.connect` raises no Disconnected event (F-13b: no second retry loop);
- the retry loop of `StreamManager.resume`: Resume, on a permanent error return, otherwise back off, PostConnect once
  after the loop; the Disconnected arm of the handler enters that loop;
- the first connection (`StreamManager.connect`): Connect, its error is returned, PostConnect once after it;
- a failed dial is not reported as permanent (F-13d);
- `Stop` removes the handler before disconnecting and releases `Run`.
(The Disconnected event after a graceful `</stream:stream>`, F-13c, is in Tie.Recv.)
(How to read an action or condition list: head of Tie/Recv.lean.)
-/
namespace XmppVerif.Tie.C13
open XmppVerif.Gen.Supervisor

theorem tie_resume_starts_goroutines : "go keepalive" ∈ clientResume ∧ "go c.recv" ∈ clientResume := by decide

theorem tie_cleanup_raises_no_event : connectFuncLits =
  [["for:stanza.NextPacket", "for:if:c.ErrorHandler", "for:if:return",
    "for:case(stanza.StreamClosePacket):c.transport.ReceivedStreamClose", "for:case(stanza.StreamClosePacket):return"]] := rfl

theorem tie_retry_loop : smResume =
  ["for:initMetrics", "for:sm.client.Resume", "for:if:if:if:xerrors.Errorf", "for:if:if:if:return",
   "for:if:backoff.wait", "if:sm.PostConnect", "return"] := rfl

theorem tie_handler_reconnects : runHandler.any (fun l => l.contains "case:sm.resume") = true := rfl

theorem tie_first_connect : smConnect =
  ["if:if:if:initMetrics", "if:if:if:c.Connect", "if:if:if:if:return", "if:if:if:if:sm.PostConnect",
   "if:if:if:return", "return"] := rfl

theorem tie_dial_not_permanent : dialErrorPermanent = ["false"] := rfl

theorem tie_stop : smStop = ["sm.client.SetHandler", "sm.client.Disconnect", "sm.wg.Done"] := rfl

end XmppVerif.Tie.C13
#print axioms XmppVerif.Tie.C13.tie_resume_starts_goroutines
#print axioms XmppVerif.Tie.C13.tie_cleanup_raises_no_event
#print axioms XmppVerif.Tie.C13.tie_retry_loop
#print axioms XmppVerif.Tie.C13.tie_handler_reconnects
#print axioms XmppVerif.Tie.C13.tie_first_connect
#print axioms XmppVerif.Tie.C13.tie_dial_not_permanent
#print axioms XmppVerif.Tie.C13.tie_stop
