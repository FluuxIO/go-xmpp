import XmppVerif.Gen.Queue
import XmppVerif.Gen.SendPath
/-
Tie (regenerated facts) for C10: `SendMissingStz` (nil guard, lock held to the end, drop loop, early return on an
empty queue, re-send loop through `resendStz`, one trailing `<r/>`), `resendStz` (a Client re-sends without storing
again), what `Client.Send` never stores, and that store + write happen under the queue lock.
(How to read an action or condition list: head of Tie/Recv.lean.)
-/
namespace XmppVerif.Tie.C10
open XmppVerif.Gen.Queue XmppVerif.Gen.SendPath

theorem tie_send_missing : sendMissing =
  ["if:return", "uaq.RWMutex.Lock", "defer uaq.RWMutex.Unlock()", "for:uaq.Pop", "if:return", "for:resendStz",
   "for:if:return", "s.Send", "return"] ∧
  sendMissingConds = ["(uaq==nil)", "(len(uaq.Uslice)==0)", "(err!=nil)"] := ⟨rfl, rfl⟩

theorem tie_resend_does_not_store : resendStz = ["if:c.sendWithWriter", "if:[]byte", "if:return", "s.SendRaw", "return"] := rfl

theorem tie_nonzas_not_stored :
    clientSendTypeSwitch = ["stanza.SMRequest|*stanza.SMRequest|stanza.SMAnswer|*stanza.SMAnswer", "default"] := rfl

theorem tie_store_under_lock : clientSendAndStore =
  ["if:c.sendWithWriter", "if:[]byte", "if:return", "uaq.Lock", "defer uaq.Unlock()", "uaq.Push", "c.sendWithWriter",
   "[]byte", "return"] := rfl
end XmppVerif.Tie.C10
#print axioms XmppVerif.Tie.C10.tie_send_missing
#print axioms XmppVerif.Tie.C10.tie_resend_does_not_store
#print axioms XmppVerif.Tie.C10.tie_nonzas_not_stored
#print axioms XmppVerif.Tie.C10.tie_store_under_lock
