import XmppVerif.Fx
import XmppVerif.Gen.Fx
/-
Tie (regenerated MODEL): lock discipline of every function of the library that performs a lock operation.

`Gen/Fx.lean` holds, regenerated from /repo's working tree on every run, the control-flow / effect skeleton of every
function and function literal of `xmpp` and `xmpp/stanza` whose body performs a lock operation (found by the extractor,
not listed by hand: a NEW function that locks is covered as well), plus the ones asked for by name in go/extract/main.go
(Client.Send, Client.SendRaw, resendStz, and the functions whose traces Tie/FxConn, FxSend and FxRecv check).
`fx_balanced` evaluates the verified analysis `Fx.balanced` on each of them; `fx_every_run` is what that means, through
`Fx.balanced_sound`: on EVERY path of the body and for EVERY number of iterations of its loops the function returns
with all locks released (deferred unlocks counted at every return), never acquires a lock class it already holds
(Go's mutexes are not re-entrant), never releases one it does not hold, keeps the un-acknowledged queue locked from the
store of a stanza to its write (so that the order of the queue is the order on the wire - C08, C10), and under the
router's pending-request lock does nothing but the lookup and the removal (no handler, no channel operation, no write:
C07 - a response is handed over outside the lock).

What this does NOT say (conditions are not interpreted, calls are not entered): nothing about which branch is taken,
nothing across function boundaries (a callee that takes a lock its caller holds is not seen here; the correspondence
runs with their time limits are what shows such a self-deadlock), nothing about panics.
-/
namespace XmppVerif.Tie.Fx
open XmppVerif.Fx

/-- the policy: under the router's pending-request lock only the map removal is called -/
def pol : Policy := polQuiet "Router.IQResultRouteLock" ["delete"]

/-- every body is inside what the skeleton extractor covers -/
theorem tie_fx_supported : XmppVerif.Gen.Fx.unsupported = [] := by decide

/-- the functions the properties anchor in are among the analysed ones (a lock that moves elsewhere is followed by the
extractor; these must stay) -/
theorem tie_fx_covers :
    ["Client.sendAndStore", "Client.Send", "Client.SendRaw", "SendMissingStz", "resendStz", "Router.route",
     "Router.NewIQResultRoute", "Router.removeIQResultRoute", "Router.sendIQ"].all
      (fun n => (XmppVerif.Gen.Fx.all.map (·.1)).contains n) = true := by decide +kernel

theorem fx_balanced : XmppVerif.Gen.Fx.all.all (fun f => balanced pol f.2) = true := by decide +kernel

/-- **Every run of every locking function keeps the lock discipline.** -/
theorem fx_every_run (name : String) (f : Fx.Fx) (hm : (name, f) ∈ XmppVerif.Gen.Fx.all) :
    ∀ l s, Runs (lockSem pol) f {} (.ret l s) → s.held = [] ∧ s.bad = false := by
  have h := List.all_eq_true.mp fx_balanced (name, f) hm
  exact balanced_sound pol f h

/-- The type registry's lookup (`GetExtensionType`, used by every hand-written decoder of stanza/ - C01, C02) does nothing
but read the two maps under its read lock: it calls nothing, it keeps nothing (a memo that a later `MapExtension` does
not clear would make a registered extension vanish from parsed stanzas). -/
theorem registry_lookup_calls_nothing :
    ((XmppVerif.Gen.Fx.all.lookup "stanza/registry.GetExtensionType").map fun f =>
      allTraces f fun t => t.all fun a =>
        match a with
        | .lock _ | .unlock _ | .deferUnlock _ => true
        | .call w => w.startsWith "return "
        | _ => false) = some true := by decide +kernel

/-- not vacuous: the skeleton of sendAndStore does lock the queue, store and write; that of Router.route takes the
router's lock, removes the entry and hands the response over -/
theorem fx_not_vacuous :
    ((XmppVerif.Gen.Fx.all.lookup "Client.sendAndStore").any fun f =>
      f.mentions (.lock queueCls) && f.mentions .store && f.mentions .write) = true ∧
    ((XmppVerif.Gen.Fx.all.lookup "Router.route").any fun f =>
      f.mentions (.lock "Router.IQResultRouteLock") && f.mentions (.call "delete") && f.mentions (.chsend "IQResultRoute.result")) = true ∧
    ((XmppVerif.Gen.Fx.all.lookup "SendMissingStz").any fun f => f.mentions (.lock queueCls)) = true := by decide +kernel

end XmppVerif.Tie.Fx
#print axioms XmppVerif.Fx.ends_sound
#print axioms XmppVerif.Fx.balanced_sound
#print axioms XmppVerif.Tie.Fx.tie_fx_supported
#print axioms XmppVerif.Tie.Fx.tie_fx_covers
#print axioms XmppVerif.Tie.Fx.fx_balanced
#print axioms XmppVerif.Tie.Fx.fx_every_run
#print axioms XmppVerif.Tie.Fx.fx_not_vacuous
#print axioms XmppVerif.Tie.Fx.registry_lookup_calls_nothing
