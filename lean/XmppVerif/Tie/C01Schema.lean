import XmppVerif.Gen.C01
import XmppVerif.Gen.C01Schema
import XmppVerif.Model.C01SchemaTypes
import XmppVerif.Model.C01Command
import XmppVerif.Props.C01SchemaWf
/-
Tie (regenerated facts) for the schema-coded types of C01. go/extract re-reads stanza/*.go on every run and prints, for
every struct type reachable from a TypeRegistry.MapExtension call, the type as encoding/xml's getTypeInfo sees it
(Gen/C01Schema.lean). Here: each regenerated schema EQUALS the schema the model instantiates (so a changed tag, a new,
removed or reordered field, a changed Go type, a new hand-written codec breaks an obligation); the list of types the
generic theorem is claimed for is fixed by name and each satisfies `Schema.wf`; every registered type is either in
that list, decoded by a hand-modelled dispatch, or in the list of types left to sampling; the registry table and the
set of hand-written codecs are the ones the model was written against.
-/
namespace XmppVerif.Tie.C01S
open XmppVerif.Model.C01S

theorem tie_schema_types :
    Gen.C01Schema.tyCommand = tyCommand ∧
    Gen.C01Schema.tyDelegated = tyDelegated ∧
    Gen.C01Schema.tyFirst = tyFirst ∧
    Gen.C01Schema.tyResultSet = tyResultSet ∧
    Gen.C01Schema.tyDelegation = tyDelegation ∧
    Gen.C01Schema.tyControlField = tyControlField ∧
    Gen.C01Schema.tyControlSet = tyControlSet ∧
    Gen.C01Schema.tyIdentity = tyIdentity ∧
    Gen.C01Schema.tyFeature = tyFeature ∧
    Gen.C01Schema.tyDiscoInfo = tyDiscoInfo ∧
    Gen.C01Schema.tyDiscoItem = tyDiscoItem ∧
    Gen.C01Schema.tyDiscoItems = tyDiscoItems ∧
    Gen.C01Schema.tyRoster = tyRoster ∧
    Gen.C01Schema.tyRosterItem = tyRosterItem ∧
    Gen.C01Schema.tyRosterItems = tyRosterItems ∧
    Gen.C01Schema.tyVersion = tyVersion ∧
    Gen.C01Schema.tyMarkable = tyMarkable ∧
    Gen.C01Schema.tyMarkReceived = tyMarkReceived ∧
    Gen.C01Schema.tyMarkDisplayed = tyMarkDisplayed ∧
    Gen.C01Schema.tyMarkAcknowledged = tyMarkAcknowledged ∧
    Gen.C01Schema.tyStateActive = tyStateActive ∧
    Gen.C01Schema.tyStateComposing = tyStateComposing ∧
    Gen.C01Schema.tyStateGone = tyStateGone ∧
    Gen.C01Schema.tyStateInactive = tyStateInactive ∧
    Gen.C01Schema.tyStatePaused = tyStatePaused ∧
    Gen.C01Schema.tyHintNoPermanentStore = tyHintNoPermanentStore ∧
    Gen.C01Schema.tyHintNoStore = tyHintNoStore ∧
    Gen.C01Schema.tyHintNoCopy = tyHintNoCopy ∧
    Gen.C01Schema.tyHintStore = tyHintStore ∧
    Gen.C01Schema.tyHTMLBody = tyHTMLBody ∧
    Gen.C01Schema.tyHTML = tyHTML ∧
    Gen.C01Schema.tyOOB = tyOOB ∧
    Gen.C01Schema.tyPubSubEvent = tyPubSubEvent ∧
    Gen.C01Schema.tyReceiptRequest = tyReceiptRequest ∧
    Gen.C01Schema.tyReceiptReceived = tyReceiptReceived ∧
    Gen.C01Schema.tyMucPresence = tyMucPresence ∧
    Gen.C01Schema.tyCreate = tyCreate ∧
    Gen.C01Schema.tyOption = tyOption ∧
    Gen.C01Schema.tyField = tyField ∧
    Gen.C01Schema.tyFormItem = tyFormItem ∧
    Gen.C01Schema.tyForm = tyForm ∧
    Gen.C01Schema.tyConfigure = tyConfigure ∧
    Gen.C01Schema.tySubInfo = tySubInfo ∧
    Gen.C01Schema.tySubOptions = tySubOptions ∧
    Gen.C01Schema.tyItem = tyItem ∧
    Gen.C01Schema.tyPublish = tyPublish ∧
    Gen.C01Schema.tyPublishOptions = tyPublishOptions ∧
    Gen.C01Schema.tyAffiliation = tyAffiliation ∧
    Gen.C01Schema.tyAffiliations = tyAffiliations ∧
    Gen.C01Schema.tyDefault = tyDefault ∧
    Gen.C01Schema.tyItems = tyItems ∧
    Gen.C01Schema.tyRetract = tyRetract ∧
    Gen.C01Schema.tySubscription = tySubscription ∧
    Gen.C01Schema.tySubscriptions = tySubscriptions ∧
    Gen.C01Schema.tyPubSubGeneric = tyPubSubGeneric ∧
    Gen.C01Schema.tyPubSubOwner = tyPubSubOwner ∧
    Gen.C01Schema.tyBind = tyBind ∧
    Gen.C01Schema.tyStreamSession = tyStreamSession ∧
    Gen.C01Schema.tyAffiliationOwner = tyAffiliationOwner ∧
    Gen.C01Schema.tyAffiliationsOwner = tyAffiliationsOwner ∧
    Gen.C01Schema.tyConfigureOwner = tyConfigureOwner ∧
    Gen.C01Schema.tyDefaultOwner = tyDefaultOwner ∧
    Gen.C01Schema.tyRedirectOwner = tyRedirectOwner ∧
    Gen.C01Schema.tyDeleteOwner = tyDeleteOwner ∧
    Gen.C01Schema.tyPurgeOwner = tyPurgeOwner ∧
    Gen.C01Schema.tySubscriptionOwner = tySubscriptionOwner ∧
    Gen.C01Schema.tySubscriptionsOwner = tySubscriptionsOwner ∧
    Gen.C01Schema.tyCollectionEvent = tyCollectionEvent ∧
    Gen.C01Schema.tyConfigurationEvent = tyConfigurationEvent ∧
    Gen.C01Schema.tyRedirectEvent = tyRedirectEvent ∧
    Gen.C01Schema.tyDeleteEvent = tyDeleteEvent ∧
    Gen.C01Schema.tyItemEvent = tyItemEvent ∧
    Gen.C01Schema.tyRetractEvent = tyRetractEvent ∧
    Gen.C01Schema.tyItemsEvent = tyItemsEvent ∧
    Gen.C01Schema.tyPurgeEvent = tyPurgeEvent ∧
    Gen.C01Schema.tySubscriptionEvent = tySubscriptionEvent := by
  and_intros <;> rfl

/-- the tables: which Go type each MapExtension call registers; every reachable struct type -/
theorem tie_schema_tables :
    Gen.C01Schema.registryTypes.map (·.1) = registryTypes.map (·.1) ∧
    Gen.C01Schema.allTypes.map (·.1) = allTypes.map (·.1) ∧
    Gen.C01.registry = regEntries := ⟨rfl, rfl, rfl⟩

/-- the types the generic round-trip theorem is claimed for, by name; each is well-formed -/
def modelledNames : List String := ["Delegated", "First", "ResultSet", "Delegation", "Identity", "Feature", "DiscoInfo", "DiscoItem", "DiscoItems", "Roster", "RosterItem", "RosterItems", "Version", "Markable", "MarkReceived", "MarkDisplayed", "MarkAcknowledged", "StateActive", "StateComposing", "StateGone", "StateInactive", "StatePaused", "HintNoPermanentStore", "HintNoStore", "HintNoCopy", "HintStore", "OOB", "ReceiptRequest", "ReceiptReceived", "MucPresence", "Create", "Option", "Field", "Form", "Configure", "SubInfo", "SubOptions", "Item", "Publish", "PublishOptions", "Affiliation", "Affiliations", "Default", "Items", "Retract", "Subscription", "Subscriptions", "PubSubGeneric", "Bind", "StreamSession", "AffiliationOwner", "AffiliationsOwner", "ConfigureOwner", "DefaultOwner", "RedirectOwner", "DeleteOwner", "PurgeOwner", "SubscriptionOwner", "SubscriptionsOwner", "CollectionEvent", "ConfigurationEvent", "RedirectEvent", "DeleteEvent", "ItemEvent", "RetractEvent", "ItemsEvent", "PurgeEvent", "SubscriptionEvent", "Actions"]

theorem tie_schema_modelled : modelled.map (·.1) = modelledNames ∧ modelled.all (fun p => Ty.wf p.2) = true := by
  refine ⟨?_, List.all_eq_true.mpr fun p hp => (List.mem_filter.mp hp).2⟩
  rw [modelled, List.filter_congr Props.C01S.wf_iff_listed]
  decide +kernel

/-- registered types left to sampling, and why -/
def sampledOnly : List (String × String) := [
  ("ControlSet", "`,any` slice of ControlField, whose XMLName is dynamic (a raw element name)"),
  ("HTML", "attribute in the xml: namespace; HTMLBody is `,innerxml` (raw by design)")]

/-- registered types with a hand-written, name-dispatching UnmarshalXML, modelled by hand (Model/C01Dispatch.lean) -/
def dispatchNames : List String := dispatchSpecs.map (·.tyName) ++ ["Command"]

/-- every registered type is modelled (schema codec), modelled by hand (dispatch) or listed as sampled-only -/
theorem tie_schema_cover :
    (Gen.C01.registry.all fun e => modelledNames.contains e.2.2.2 || dispatchNames.contains e.2.2.2 ||
      (sampledOnly.map (·.1)).contains e.2.2.2) = true ∧
    (sampledOnly.all fun p => !modelledNames.contains p.1) = true ∧
    (unmodelled.map (·.1)) = ["Command", "ControlField", "ControlSet", "HTMLBody", "HTML", "PubSubEvent", "FormItem",
      "PubSubOwner", "Note"] := by
  rw [unmodelled, List.filter_congr fun p hp => congrArg (!·) (Props.C01S.wf_iff_listed p hp)]
  decide +kernel

/-- the name-dispatching decoders: the case labels with the Go type decoded in each arm, and the fields of the struct
(name, Go type, tag), are the ones Model/C01Dispatch.lean transcribes -/
theorem tie_schema_dispatch :
    Gen.C01Schema.dispatch.map (fun e => (e.1, e.2.1)) =
      dispatchSpecs.map (fun d => (d.tyName, d.cases)) ++ [("Command", cmdCases)] ∧
    Gen.C01Schema.dispatch.map (fun e => e.2.2) =
      [["XMLName xml.Name http://jabber.org/protocol/pubsub#owner pubsub", "OwnerUseCase OwnerUseCase ",
        "ResultSet *ResultSet set,omitempty"],
       ["XMLName xml.Name http://jabber.org/protocol/pubsub#event event", "MsgExtension MsgExtension ",
        "EventElement EventElement "],
       ["XMLName xml.Name http://jabber.org/protocol/commands command", "CommandElements []CommandElement ",
        "BadAction *struct{} bad-action,omitempty", "BadLocale *struct{} bad-locale,omitempty",
        "BadPayload *struct{} bad-payload,omitempty", "BadSessionId *struct{} bad-sessionid,omitempty",
        "MalformedAction *struct{} malformed-action,omitempty", "SessionExpired *struct{} session-expired,omitempty",
        "Action string action,attr,omitempty", "Node string node,attr", "SessionId string sessionid,attr,omitempty",
        "Status string status,attr,omitempty", "Lang string lang,attr,omitempty", "ResultSet *ResultSet set,omitempty"]] ∧
    (cmdFlagNames.map String.ofList, String.ofList nsCommands, [actionL, nodeL, sessionidL, statusAL, langL].map String.ofList) =
      (["bad-action", "bad-locale", "bad-payload", "bad-sessionid", "malformed-action", "session-expired"],
       "http://jabber.org/protocol/commands", ["action", "node", "sessionid", "status", "lang"]) ∧
    dispatchSpecs.map (fun d => (String.ofList d.name.space ++ " " ++ String.ofList d.name.loc, d.field, d.hasSet)) =
      [("http://jabber.org/protocol/pubsub#owner pubsub", "OwnerUseCase", true),
       ("http://jabber.org/protocol/pubsub#event event", "EventElement", false)] ∧
    (dispatchSpecs.all fun d => d.cases.all fun c => modelledNames.contains c.2) = true :=
  -- conjuncts 3 and 4: `String.ofList s.toList = s` (a lemma) first, so that no literal is decoded and encoded again
  ⟨rfl, rfl,
    by
      delta cmdFlagNames Model.C01S.nsCommands actionL nodeL sessionidL statusAL langL
      simp only [List.map_cons, List.map_nil, String.ofList_toList],
    by
      delta dispatchSpecs dPubSubOwner dPubSubEvent
      simp only [List.map_cons, List.map_nil, String.ofList_toList]
      decide +kernel,
    by decide +kernel⟩

/-- the types of stanza/ with hand-written codec methods: the reflection schema does not describe them -/
theorem tie_schema_custom_codecs :
    Gen.C01Schema.customCodecs = [("Command", "UnmarshalXML"), ("Err", "UnmarshalXML+MarshalXML"),
      ("Forwarded", "UnmarshalXML"), ("History", "UnmarshalXML+MarshalXML"), ("IQ", "UnmarshalXML"),
      ("Message", "UnmarshalXML"), ("Node", "UnmarshalXML+MarshalXML"), ("Presence", "UnmarshalXML"),
      ("PubSubEvent", "UnmarshalXML"), ("PubSubOwner", "UnmarshalXML"), ("SMFailed", "UnmarshalXML"),
      ("TlsStartTLS", "UnmarshalXML")] := rfl

end XmppVerif.Tie.C01S
#print axioms XmppVerif.Tie.C01S.tie_schema_types
#print axioms XmppVerif.Tie.C01S.tie_schema_tables
#print axioms XmppVerif.Tie.C01S.tie_schema_modelled
#print axioms XmppVerif.Tie.C01S.tie_schema_cover
#print axioms XmppVerif.Tie.C01S.tie_schema_custom_codecs
#print axioms XmppVerif.Tie.C01S.tie_schema_dispatch
