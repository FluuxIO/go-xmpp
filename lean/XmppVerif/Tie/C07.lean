import XmppVerif.Gen.RouterSkeleton
/-
Tie (regenerated facts) for C07: the sequences of lock, map, channel and send operations that the steps of Model/C07
stand for are the ones in router.go. These are exactly the facts a stress run cannot establish:
- `route`: for result/error IQs only, ONE critical section containing the lookup and the delete, then send, close, return;
- `sendIQ`: the route is stored (under the lock) BEFORE `s.Send`; on a send error it is removed again; the clean-up
  goroutine waits for the context and removes only its own route (`IQResultRoutes[id] == route`);
- the result channel has capacity 1 (the single send can never block);
- `Client.SendIQ` and `Component.SendIQ` go through `Router.sendIQ`.
(How to read an action or condition list: head of Tie/Recv.lean.)
-/
namespace XmppVerif.Tie.C07
open XmppVerif.Gen.RouterSkeleton

theorem tie_route : route =
  ["if:case(*Client):SendMissingStz", "if:r.IQResultRouteLock.Lock", "if:if:delete", "if:r.IQResultRouteLock.Unlock",
   "if:if:send route.result", "if:if:close", "if:if:return", "if:match.Handler.HandlePacket", "if:return",
   "if:iqNotImplemented"] := rfl

-- the first three conditions guard the IQ-result branch; the later ones belong to the ordinary routing below it
theorem tie_route_only_responses : routeConds.take 3 =
  ["isA", "(isIq&&((iq.Type==stanza.IQTypeResult)||(iq.Type==stanza.IQTypeError)))", "ok"] := rfl

theorem tie_register_before_send : sendIQ =
  ["NewIQResultRoute", "r.IQResultRouteLock.Lock", "r.IQResultRouteLock.Unlock", "s.Send",
   "if:r.removeIQResultRoute", "if:return", "go func{…}", "return"] := rfl

theorem tie_cleanup : sendIQFuncLits = [["route.context.Done", "r.removeIQResultRoute"]] ∧
    removeRoute = ["r.IQResultRouteLock.Lock", "if:delete", "r.IQResultRouteLock.Unlock"] ∧
    removeRouteConds = ["(r.IQResultRoutes[id]==route)"] := ⟨rfl, rfl, rfl⟩

theorem tie_channel_buffered : resultChanCap = ["1"] := rfl

theorem tie_callers : clientSendIQ = ["if:return", "c.router.sendIQ", "return"] ∧
    componentSendIQ = ["if:return", "c.router.sendIQ", "return"] := ⟨rfl, rfl⟩

end XmppVerif.Tie.C07
#print axioms XmppVerif.Tie.C07.tie_route
#print axioms XmppVerif.Tie.C07.tie_route_only_responses
#print axioms XmppVerif.Tie.C07.tie_register_before_send
#print axioms XmppVerif.Tie.C07.tie_cleanup
#print axioms XmppVerif.Tie.C07.tie_channel_buffered
#print axioms XmppVerif.Tie.C07.tie_callers
