import XmppVerif.Fx
import XmppVerif.Gen.Fx
/-
Tie (regenerated MODEL, trace semantics): the send paths, the router and the transport's security flag - on every path.
-/
namespace XmppVerif.Tie.FxSend
open XmppVerif.Fx XmppVerif.Gen.Fx

/-- As `Tie.FxConn.get`: an absent name reads as the body `return missing`. Of the predicates here `routeOk` and that of
`connect_only_wraps` accept that body: Router.route is among the names of `Tie.Fx.tie_fx_covers`, and
XMPPTransport.Connect is also the subject of `connect_clears_flag`, which refuses it. -/
def get (name : String) : Fx.Fx := (XmppVerif.Gen.Fx.all.lookup name).getD (.ret "missing")
def cnt (a : Act) (t : List Act) : Nat := (t.filter (· == a)).length
def builtError (t : List Act) : Bool := (retLabel t).startsWith "errors.New("

/-- Send / SendRaw of the client (C08, C10): one write per path - direct or through sendAndStore - unless the path returns
an error it has just built ("not connected", "cannot marshal") before writing -/
def clientSendOk (t : List Act) : Bool :=
  let w := cnt .write t + cnt (.call "Client.sendAndStore") t
  w ≤ 1 && (w == 1 || builtError t)

/-- Send / SendRaw of the component: the same, and no goroutine -/
def componentSendOk (t : List Act) : Bool :=
  let w := cnt .write t
  w ≤ 1 && (w == 1 || builtError t) && !(t.any isSpawn)

/-- sendAndStore (C08, C10): exactly one write on every path, after the store where it stores -/
def storeOk (t : List Act) : Bool :=
  cnt .write t == 1 && cnt .store t ≤ 1 && noneAfter (· == .write) (· == .store) t

theorem send_every_path :
    allTraces (get "Client.Send") clientSendOk = true ∧ allTraces (get "Client.SendRaw") clientSendOk = true ∧
    allTraces (get "Client.sendAndStore") storeOk = true ∧
    allTraces (get "Component.Send") componentSendOk = true ∧ allTraces (get "Component.SendRaw") componentSendOk = true := by
  decide +kernel

theorem send_every_run :
    (∀ l t, Runs traceSem (get "Client.Send") [] (.ret l t) → clientSendOk t = true) ∧
    (∀ l t, Runs traceSem (get "Client.SendRaw") [] (.ret l t) → clientSendOk t = true) ∧
    (∀ l t, Runs traceSem (get "Client.sendAndStore") [] (.ret l t) → storeOk t = true) ∧
    (∀ l t, Runs traceSem (get "Component.Send") [] (.ret l t) → componentSendOk t = true) ∧
    (∀ l t, Runs traceSem (get "Component.SendRaw") [] (.ret l t) → componentSendOk t = true) :=
  ⟨allTraces_sound _ _ send_every_path.1, allTraces_sound _ _ send_every_path.2.1, allTraces_sound _ _ send_every_path.2.2.1,
   allTraces_sound _ _ send_every_path.2.2.2.1, allTraces_sound _ _ send_every_path.2.2.2.2⟩

/-- Router.route on every path (C06, C07) -/
def routeOk (t : List Act) : Bool :=
  let handled := cnt (.call "Handler.HandlePacket") t
  let given := cnt (.chsend "IQResultRoute.result") t
  let refused := cnt (.call "iqNotImplemented") t
  handled + given + refused ≤ 1 &&
  -- the hand-over: send on the channel, close it, return - nothing else afterwards
  (given == 0 || (t.dropWhile (· != .chsend "IQResultRoute.result")) ==
      [.chsend "IQResultRoute.result", .chclose "IQResultRoute.result", .call "return "]) &&
  -- the handler's path returns right after the handler
  (handled == 0 || (t.dropWhile (· != .call "Handler.HandlePacket")).length == 2) &&
  -- the order of `Model.C06.route`: the stream-management hook for <a/>, then the pending-request table, then the
  -- ordinary routes, then the automatic error - nothing of an earlier stage after a later one
  noneAfter (· == .lock "Router.IQResultRouteLock") (· == .call "SendMissingStz") t &&
  noneAfter (· == .call "Router.Match") (fun a => a == .lock "Router.IQResultRouteLock" || a == .call "SendMissingStz") t &&
  noneAfter (fun a => a == .call "Handler.HandlePacket" || a == .call "iqNotImplemented") (· == .call "Router.Match") t &&
  -- a handler runs only after a match was looked for; the automatic error only after none was found
  (handled == 0 || t.contains (.call "Router.Match")) && (refused == 0 || t.contains (.call "Router.Match"))

theorem route_every_path : allTraces (get "Router.route") routeOk = true := by decide +kernel

theorem route_every_run : ∀ l t, Runs traceSem (get "Router.route") [] (.ret l t) → routeOk t = true :=
  allTraces_sound _ _ route_every_path

/-- Router.sendIQ on every path (C07) -/
def sendIQOk (t : List Act) : Bool :=
  let lk : Act := .lock "Router.IQResultRouteLock"
  -- registered (the locked section) before the send
  noneAfter (· == .call "Sender.Send") (· == lk) t && cnt lk t == 1 && cnt (.call "Sender.Send") t == 1 &&
  -- a failed send: unregister, return the error, no clean-up goroutine; otherwise the goroutine and the channel
  (if t.contains (.call "Router.removeIQResultRoute") then !(t.any isSpawn) && retLabel t == "nil, error"
   else cnt (.spawn "func literal") t == 1 && retLabel t == "IQResultRoute.result, nil")

theorem sendiq_every_path : allTraces (get "Router.sendIQ") sendIQOk = true := by decide +kernel

theorem sendiq_every_run : ∀ l t, Runs traceSem (get "Router.sendIQ") [] (.ret l t) → sendIQOk t = true :=
  allTraces_sound _ _ sendiq_every_path

/-- XMPPTransport.StartTLS on every path (C04) -/
def startTLSOk (t : List Act) : Bool :=
  let secure : Act := .call "set XMPPTransport.isSecure=true"
  let ok := retLabel t == "nil"
  -- the flag is set exactly on the paths that return nil, and there it is the last act
  (t.contains secure == ok) &&
  (!ok || (t.dropWhile (· != secure)).length == 2) &&
  -- after the handshake; the flag is cleared once the connection is switched, before anything can fail
  (!ok || (t.contains (.call "Conn.Handshake") && t.contains (.call "set XMPPTransport.isSecure=false"))) &&
  noneAfter (· == secure) (fun a => a == .call "Conn.Handshake" || a == .call "Conn.VerifyHostname") t &&
  -- every error return is the error of the handshake or of the host-name check, handed on as it is
  (ok || retLabel t == "error")

theorem starttls_every_path : allTraces (get "XMPPTransport.StartTLS") startTLSOk = true := by decide +kernel

theorem starttls_every_run : ∀ l t, Runs traceSem (get "XMPPTransport.StartTLS") [] (.ret l t) → startTLSOk t = true :=
  allTraces_sound _ _ starttls_every_path

/-- the host-name check is skipped only on the branch the application asked for (InsecureSkipVerify): the skeleton has the
check directly under that branch and nowhere is the flag set in front of it -/
theorem starttls_checks_hostname :
    (get "XMPPTransport.StartTLS").mentions (.call "Conn.VerifyHostname") = true ∧
    allTraces (get "XMPPTransport.StartTLS") (fun t =>
      !t.contains (.call "Conn.VerifyHostname") || noneAfter (· == .call "set XMPPTransport.isSecure=true") (· == .call "Conn.VerifyHostname") t) = true := by
  decide +kernel

/-- XMPPTransport.Connect (C03, C04, C13): the flag is cleared first, before the dial, on every path -/
theorem connect_clears_flag :
    allTraces (get "XMPPTransport.Connect") (fun t =>
      t.head? == some (.call "set XMPPTransport.isSecure=false") && !t.contains (.call "set XMPPTransport.isSecure=true") &&
      (t.filter (fun a => match a with | .call w => w.startsWith "net.DialTimeout" | _ => false)).length == 1) = true := by decide +kernel

/-- XMPPTransport.Connect does nothing with the new connection but wrap it (stream logger, buffered reader, decoder) and
open the stream: no socket option that changes what a later `Close` does to data `Send` has accepted (C08), no deadline -/
theorem connect_only_wraps :
    allTraces (get "XMPPTransport.Connect") (fun t => t.all fun a =>
      match a with
      | .call w => w.startsWith "set XMPPTransport.isSecure=false" || w.startsWith "net.DialTimeout(" ||
          w.startsWith "NewConnError(" || w == "newStreamLogger" || w.startsWith "bufio.NewReaderSize(" ||
          w == "xml.NewDecoder" || w == "XMPPTransport.StartStream" || w.startsWith "return " || w == "time.Duration"
      | _ => false) = true := by decide +kernel

example : startTLSOk [.call "tls.Client", .call "Conn.Handshake", .call "set XMPPTransport.isSecure=true", .call "Conn.VerifyHostname",
    .call "return err"] = false := by decide +kernel
example : routeOk [.call "Router.Match", .call "Handler.HandlePacket", .call "iqNotImplemented", .call "return "] = false := by decide +kernel
example : clientSendOk [.call "xml.Marshal", .write, .write, .call "return nil"] = false := by decide +kernel

end XmppVerif.Tie.FxSend
#print axioms XmppVerif.Tie.FxSend.send_every_path
#print axioms XmppVerif.Tie.FxSend.send_every_run
#print axioms XmppVerif.Tie.FxSend.route_every_path
#print axioms XmppVerif.Tie.FxSend.route_every_run
#print axioms XmppVerif.Tie.FxSend.sendiq_every_path
#print axioms XmppVerif.Tie.FxSend.sendiq_every_run
#print axioms XmppVerif.Tie.FxSend.starttls_every_path
#print axioms XmppVerif.Tie.FxSend.starttls_every_run
#print axioms XmppVerif.Tie.FxSend.starttls_checks_hostname
#print axioms XmppVerif.Tie.FxSend.connect_clears_flag
#print axioms XmppVerif.Tie.FxSend.connect_only_wraps
