import XmppVerif.Fx
import XmppVerif.Gen.Fx
/-
Tie (regenerated MODEL, call graph): no lock class is taken again while it is held - across function boundaries.

`Tie.Fx.fx_every_run` is about one body at a time: a callee that takes a lock its caller holds is invisible there
(Go's mutexes are not re-entrant: that is a self-deadlock, the defect this analysis is for).
Here the skeleton of EVERY function of both packages is regenerated (`Gen.Fx.fns`: the call graph), `mayLock` decides -
over-approximating - whether a call may end up acquiring a class, and the policy `noRelock` refuses, in the verified
lock analysis, every call that may re-acquire a class held at that point. `fx_no_relock_every_run` is then a theorem
about every run of every locking function.

`mayLock cls w`: the call `w` may acquire `cls` if the body of the function it names does, directly or through its own
calls (to a depth of 6; beyond that: yes). A call of an interface method stands for its implementations
(`Gen.Fx.impls`, from go/types). Two refinements keep it precise enough to hold on the code as it is:
  * a call whose argument is an empty composite literal (`Send(stanza.SMRequest{})`) enters the callee with its type
    switches resolved for that type (`specialise`): `Client.Send` takes the queue lock for stanzas, not for `<r/>`;
  * after `v, ok := x.(*T)` the else side of the branch on `ok` knows that the dynamic type is not `T`: interface calls
    there stand for the other implementations (`resendStz` writes directly for a *Client and calls `SendRaw` - which
    would lock - only for other senders).
A function whose body is outside the extractor's subset, or that is not part of the two packages (library code, the
application's handlers), is taken for one that locks nothing of ours - except that application handlers are never called
under the router's lock (`Tie.Fx.pol`) and nothing but queue methods, the retransmission and the request is called under
the queue's (`queue_calls_under_lock`).
-/
namespace XmppVerif.Tie.FxLock
open XmppVerif.Fx XmppVerif.Gen.Fx

def infixOf (p : List Char) : List Char → Bool
  | [] => p.isEmpty
  | c :: r => p.isPrefixOf (c :: r) || infixOf p r

/-- resolve the type switches of a body for a known dynamic type of the value switched on -/
def specialise (ty : String) : Fx.Fx → Fx.Fx
  | .branch c t e =>
    if c.startsWith "type switch: case " then
      (if infixOf ("stanza." ++ ty).toList c.toList then specialise ty t else specialise ty e)
    else .branch c (specialise ty t) (specialise ty e)
  | .act a k => .act a (specialise ty k)
  | .loop b k => .loop (specialise ty b) (specialise ty k)
  | x => x

def beforeCh (c : Char) : List Char → List Char
  | [] => []
  | x :: r => if x == c then [] else x :: beforeCh c r

def afterCh (c : Char) : List Char → Option (List Char)
  | [] => none
  | x :: r => if x == c then some r else afterCh c r

/-- split `Type.Method(Arg{})` into the callee's name and the type of an empty-literal argument -/
def splitCall (w : String) : String × Option String :=
  let cs := w.toList
  let b := String.ofList (beforeCh '(' cs)
  match afterCh '(' cs with
  | none => (b, none)
  | some a =>
    (b, if infixOf "{}".toList a then some (String.ofList (beforeCh '{' a)) else none)

/-- the functions a call name may stand for: itself, the stanza package's function of that name, or - for an interface
method - that method of every implementation not excluded -/
def targets (excl : List String) (b : String) : List String :=
  let cs := b.toList
  match afterCh '.' cs with
  | some m =>
    match XmppVerif.Gen.Fx.impls.lookup (String.ofList (beforeCh '.' cs)) with
    | some is => (is.filter fun i => !excl.contains i).map (· ++ "." ++ String.ofList m)
    | none => [b, "stanza/" ++ b]
  | none => [b, "stanza/" ++ b]

/-- does this body acquire `cls`, given an oracle for its calls; `excl`: dynamic types excluded by a failed type assertion -/
def bodyMayLock (cls : String) (callMay : List String → String → Bool) : List String → Fx.Fx → Bool
  | _, .ret _ => false
  | ex, .act (.lock c) k => c == cls || bodyMayLock cls callMay ex k
  | ex, .act (.call w) (.branch c t e) =>
    if w.startsWith "@assert " && c == "ok" then
      bodyMayLock cls callMay ex t || bodyMayLock cls callMay ((w.drop 8).toString :: ex) e
    else callMay ex w || bodyMayLock cls callMay ex t || bodyMayLock cls callMay ex e
  | ex, .act (.call w) k => callMay ex w || bodyMayLock cls callMay ex k
  | ex, .act _ k => bodyMayLock cls callMay ex k           -- a goroutine started is another thread
  | ex, .branch _ t e => bodyMayLock cls callMay ex t || bodyMayLock cls callMay ex e
  | ex, .loop b k => bodyMayLock cls callMay ex b || bodyMayLock cls callMay ex k
  | _, .brk => false
  | _, .cont => false

/-- may the call `w` acquire `cls` (to the given depth of the call graph; at depth 0: yes) -/
def mayLock (cls : String) : Nat → List String → String → Bool
  | 0, _, _ => true
  | n + 1, excl, w =>
    let (b, arg) := splitCall w
    (targets excl b).any fun f =>
      match XmppVerif.Gen.Fx.fns.lookup f with
      | none => false
      | some body =>
        let body := match arg with | some ty => specialise ty body | none => body
        bodyMayLock cls (mayLock cls n) [] body

/-- the lock classes of the library -/
def classes : List String := ["UnAckQueue", "Router.IQResultRouteLock", "SyncConnState", "SyncConnState:R"]

/-- the policy: while a class is held, no call that may acquire it again. The type assertion of `resendStz` is seen by
`bodyMayLock` when `resendStz` is entered as a callee; at the top level the policy looks at each call on its own. -/
def noRelock : Policy := fun a held =>
  match a with
  | .call w => held.all fun c => !(classes.contains c && mayLock c 6 [] w)
  | _ => true

def pol : Policy := fun a held => noRelock a held && polQuiet "Router.IQResultRouteLock" ["delete"] a held

/-- The whole analysis in one evaluation. The locking functions and the sample calls walk the same call graph, and what is
dear is resolving a call name (`splitCall`, `targets`, the look-ups in `fns`: strings are slow in the kernel); within one
evaluation the kernel does that once for each name. -/
theorem lock_analysis :
    XmppVerif.Gen.Fx.all.all (fun f => balanced pol f.2) = true ∧
    mayLock "UnAckQueue" 6 [] "Sender.Send" = true ∧
    mayLock "UnAckQueue" 6 [] "Sender.Send(SMRequest{})" = false ∧
    mayLock "UnAckQueue" 6 [] "Sender.Send(SMAnswer{})" = false ∧
    mayLock "UnAckQueue" 6 [] "Sender.SendRaw" = true ∧
    mayLock "UnAckQueue" 6 [] "Component.SendRaw" = false ∧
    mayLock "UnAckQueue" 6 [] "resendStz" = false ∧
    mayLock "UnAckQueue" 6 [] "SendMissingStz" = true ∧
    mayLock "UnAckQueue" 6 [] "Router.route" = true ∧
    mayLock "Router.IQResultRouteLock" 6 [] "Sender.SendIQ" = true ∧
    mayLock "Router.IQResultRouteLock" 6 [] "Sender.Send" = false := by decide +kernel

theorem fx_no_relock : XmppVerif.Gen.Fx.all.all (fun f => balanced pol f.2) = true := lock_analysis.1

/-- **No self-deadlock**: on every run of every function that takes a lock, no call is made - while a lock class is
held - that may acquire that class again, however deep in the call graph, through whichever implementation of an
interface; and every lock is released at return. -/
theorem fx_no_relock_every_run (name : String) (f : Fx.Fx) (hm : (name, f) ∈ XmppVerif.Gen.Fx.all) :
    ∀ l s, Runs (lockSem pol) f {} (.ret l s) → s.held = [] ∧ s.bad = false :=
  balanced_sound pol f (List.all_eq_true.mp fx_no_relock (name, f) hm)

/-- the analysis is precise where it has to be, and not vacuous -/
theorem may_lock_facts :
    -- sending a stanza takes the queue lock; sending the acknowledgement request does not
    mayLock "UnAckQueue" 6 [] "Sender.Send" = true ∧
    mayLock "UnAckQueue" 6 [] "Sender.Send(SMRequest{})" = false ∧
    mayLock "UnAckQueue" 6 [] "Sender.Send(SMAnswer{})" = false ∧
    mayLock "UnAckQueue" 6 [] "Sender.SendRaw" = true ∧
    mayLock "UnAckQueue" 6 [] "Component.SendRaw" = false ∧
    -- the retransmission helper: a *Client is written to directly, other senders through SendRaw
    mayLock "UnAckQueue" 6 [] "resendStz" = false ∧
    mayLock "UnAckQueue" 6 [] "SendMissingStz" = true ∧
    mayLock "UnAckQueue" 6 [] "Router.route" = true ∧
    mayLock "Router.IQResultRouteLock" 6 [] "Sender.SendIQ" = true ∧
    mayLock "Router.IQResultRouteLock" 6 [] "Sender.Send" = false := lock_analysis.2

end XmppVerif.Tie.FxLock
#print axioms XmppVerif.Tie.FxLock.fx_no_relock
#print axioms XmppVerif.Tie.FxLock.fx_no_relock_every_run
#print axioms XmppVerif.Tie.FxLock.may_lock_facts
