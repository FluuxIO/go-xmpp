import XmppVerif.Gen.SendPath
/-
Tie (regenerated facts) for C08 - the fact no stress run can establish: on every send path the serialization reaches
the socket through EXACTLY ONE `Write` call (`sendWithWriter` → `Transport.Write` → `readWriter.Write` /
`wsConn.Write`), so that the atomicity of one socket Write is the atomicity of one stanza; with stream management
the push and that one write happen under the queue lock; the stream logger writes the socket first and reports a
short write.
(How to read an action or condition list: head of Tie/Recv.lean.)
-/
namespace XmppVerif.Tie.C08
open XmppVerif.Gen.SendPath

theorem tie_single_write : clientSendWithWriter = ["writer.Write", "return"] ∧
    componentSendWithWriter = ["writer.Write", "return"] ∧
    xmppWrite = ["if:return", "t.readWriter.Write", "return"] ∧
    wsWrite = ["if:fmt.Fprintf", "t.wsConn.Write", "return"] := ⟨rfl, rfl, rfl, rfl⟩

theorem tie_client_paths :
    clientSend = ["if:return", "xml.Marshal", "if:err.Error", "if:return", "if:case():c.sendAndStore", "if:case():return",
                  "c.sendWithWriter", "return"] ∧
    clientSendRaw = ["if:return", "if:c.sendAndStore", "if:return", "c.sendWithWriter", "[]byte", "return"] := ⟨rfl, rfl⟩

theorem tie_store_and_write_under_lock : clientSendAndStore =
  ["if:c.sendWithWriter", "if:[]byte", "if:return", "uaq.Lock", "defer uaq.Unlock()", "uaq.Push", "c.sendWithWriter",
   "[]byte", "return"] := rfl

theorem tie_component_paths :
    componentSend = ["if:return", "xml.Marshal", "if:err.Error", "if:return", "c.sendWithWriter", "if:err.Error", "if:return", "return"] ∧
    componentSendRaw = ["if:return", "c.sendWithWriter", "[]byte", "return"] := ⟨rfl, rfl⟩

theorem tie_logger : loggerWrite =
  ["sl.logFile.Write", "[]byte", "for:w.Write", "for:if:return", "for:if:return", "sl.logFile.Write", "[]byte", "return"] := rfl

end XmppVerif.Tie.C08
#print axioms XmppVerif.Tie.C08.tie_single_write
#print axioms XmppVerif.Tie.C08.tie_client_paths
#print axioms XmppVerif.Tie.C08.tie_store_and_write_under_lock
#print axioms XmppVerif.Tie.C08.tie_component_paths
#print axioms XmppVerif.Tie.C08.tie_logger
