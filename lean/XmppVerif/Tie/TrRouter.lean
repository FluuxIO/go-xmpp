import XmppVerif.GoRT
import XmppVerif.Gen.TrRoot
import XmppVerif.Model.C06
/-
Tie by TRANSLATION for C06: the bodies of `matchInArray`, `nameMatcher.Match`, `nsTypeMatcher.Match`,
`nsIQMatcher.Match` (type switches over `stanza.Packet`, represented as the sum Message | *IQ | Presence | other),
`Route.Match` (dynamic dispatch over the `Matcher` interface, the sum of the three matcher types; it assigns through its
pointer parameter `match`) and `Router.Match` (router.go), translated to Lean by go/extract/tr.go on every run, are
proved equal to `Model.C06`: a matcher accepts exactly what the model says, a route accepts exactly when all its
matchers do, and the router reports the FIRST route that accepts - for all route tables and all packets.
-/
namespace XmppVerif.Tie.TrRouter
open XmppVerif XmppVerif.Gen.TrRoot XmppVerif.Model.C06

def concAttrs (p : Pkt) : stanza_Attrs := { «Type» := p.type.toList, Id := p.id.toList, From := p.from_.toList, To := p.to.toList }

def concPkt (p : Pkt) : stanza_Packet :=
  match p.kind with
  | .message => .Message { Attrs := concAttrs p }
  | .presence => .Presence { Attrs := concAttrs p }
  | .iq => .IQ { Attrs := concAttrs p,
                 Payload := match p.payloadNs with
                   | some n => { isNil := false, Namespace := n.toList }
                   | none => stanza_IQPayload.nil }
  | .other => .other

def concM : Model.C06.Matcher → Gen.TrRoot.Matcher
  | .name n => .nameMatcher n.toList
  | .stype ts => .nsTypeMatcher (ts.map String.toList)
  | .iqns ns => .nsIQMatcher (ns.map String.toList)

def concR (r : Model.C06.Route) : Gen.TrRoot.Route := { matchers := r.map concM }

theorem toList_beq (a b : String) : (a.toList == b.toList) = (a == b) := by
  rw [Bool.eq_iff_iff, beq_iff_eq, beq_iff_eq, String.toList_inj]

theorem tr_matchInArray (arr : List String) (v : String) :
    Gen.TrRoot.matchInArray (arr.map String.toList) v.toList = Model.C06.matchInArray arr v := by
  unfold Gen.TrRoot.matchInArray Model.C06.matchInArray GoRT.forEach
  rw [GoRT.forEachAux_any (· == v.toList) (.ret true) _ () (fun _ _ => rfl), List.any_map]
  simp only [Function.comp_def, toList_beq]
  cases arr.any (· == v) <;> rfl

-- Literals are carried from the translated code (character lists) to the model (strings) by rewriting with these, never
-- by unfolding: the kernel and `isDefEq` decode `"…".toList` of a literal through its UTF-8 bytes, which is very slow,
-- while a literal unifies with `String.ofList` of its characters at once (`String.toList_ofList`).
theorem lit_message : (['m', 'e', 's', 's', 'a', 'g', 'e'] : List Char) = "message".toList := by rw [String.toList_ofList]
theorem lit_iq : (['i', 'q'] : List Char) = "iq".toList := by rw [String.toList_ofList]
theorem lit_presence : (['p', 'r', 'e', 's', 'e', 'n', 'c', 'e'] : List Char) = "presence".toList := by rw [String.toList_ofList]
theorem lit_normal : (['n', 'o', 'r', 'm', 'a', 'l'] : List Char) = "normal".toList := by rw [String.toList_ofList]
theorem lit_empty : (default : List Char) = "".toList := rfl

/-- each matcher accepts exactly what the model's matcher accepts (whatever the `match` argument holds) -/
theorem tr_Matcher_Match (m : Model.C06.Matcher) (p : Pkt) (rm : RouteMatch) :
    Matcher_Match (concM m) (concPkt p) rm = m.accepts p := by
  obtain ⟨kind, type, pns, id, fr, to⟩ := p
  cases m with
  | name n =>
    -- every arm of the translated type switch is `if name == n then true else false`
    cases kind <;>
      simp only [concM, Matcher_Match, nameMatcher_Match, Matcher.accepts, concPkt, pktName, lit_message, lit_iq,
        lit_presence, lit_empty, toList_beq, Bool.if_true_left, Bool.decide_eq_true, Bool.or_false]
  | stype ts =>
    cases kind with
    | message =>
      -- `lit_normal` is used before `simp` goes under the `if`: its congruence step would compare the two forms by unfolding
      simp only [concM, Matcher_Match, nsTypeMatcher_Match, Matcher.accepts, concPkt, concAttrs]
      rw [lit_normal, show ([] : List Char) = "".toList from rfl, toList_beq]
      cases type == "" <;> simp only [Bool.false_eq_true, ↓reduceIte, tr_matchInArray]
    | iq | presence | other =>
      simp only [concM, Matcher_Match, nsTypeMatcher_Match, Matcher.accepts, concPkt, concAttrs, tr_matchInArray]
  | iqns ns =>
    cases kind <;> cases pns <;>
      simp [concM, Matcher_Match, nsIQMatcher_Match, Matcher.accepts, concPkt, stanza_IQPayload.nil, tr_matchInArray]

/-- a route accepts exactly when all its matchers do; only then is the route recorded in `match` -/
theorem tr_Route_Match (r : Model.C06.Route) (p : Pkt) (rm : RouteMatch) :
    Route_Match (concR r) (concPkt p) rm =
      if Route.accepts r p then (true, { rm with Route := concR r }) else (false, rm) := by
  unfold Route_Match GoRT.forEach Route.accepts
  rw [concR, GoRT.forEachAux_map,
    GoRT.forEachAux_any (fun m => !m.accepts p) (.ret (false, rm)) _ () (fun _ m => by rw [tr_Matcher_Match]; rfl),
    List.all_eq_not_any_not]
  cases r.any (fun m => !m.accepts p) <;> rfl

/-- **First match, translated code**: `Router.Match` returns true exactly when some route accepts the packet, and then
`match.Route` is the FIRST such route in registration order; otherwise `match` is untouched. -/
theorem tr_Router_Match (rs : List Model.C06.Route) (p : Pkt) (rm : RouteMatch) :
    Router_Match { routes := rs.map concR } (concPkt p) rm =
      match rs.find? (·.accepts p) with
      | some r => (true, { rm with Route := concR r })
      | none => (false, rm) := by
  unfold Router_Match GoRT.forEach
  rw [GoRT.forEachAux_map,
    GoRT.forEachAux_find (·.accepts p) (fun r => .ret (true, { rm with Route := concR r })) _ rm
      (fun _ r => by rw [tr_Route_Match]; cases Route.accepts r p <;> rfl)]
  cases rs.find? (·.accepts p) <;> rfl

/-- the model's `dispatch` (an index) names the same route -/
theorem dispatch_find (rs : List Model.C06.Route) (p : Pkt) :
    (dispatch rs p).bind (rs[·]?) = rs.find? (·.accepts p) := by
  exact List.find?_eq_bind_findIdx?_getElem?.symm

end XmppVerif.Tie.TrRouter
#print axioms XmppVerif.Tie.TrRouter.tr_matchInArray
#print axioms XmppVerif.Tie.TrRouter.tr_Matcher_Match
#print axioms XmppVerif.Tie.TrRouter.tr_Route_Match
#print axioms XmppVerif.Tie.TrRouter.tr_Router_Match
#print axioms XmppVerif.Tie.TrRouter.dispatch_find
