import XmppVerif.Gen.Consts
import XmppVerif.Model.C20
/- Tie (regenerated facts): default port literal and scheme prefixes in transport.go, bracket test in network.go. -/
namespace XmppVerif.Tie.C20
open XmppVerif.Gen.Consts
theorem tie_default_port :
    clientDefaultPort = XmppVerif.Model.C20.defaultPort ∧ componentDefaultPort = XmppVerif.Model.C20.defaultPort := ⟨rfl, rfl⟩
theorem tie_ws_prefixes :
    clientWsPrefixes = ["ws:", "wss:"] ∧ componentWsPrefixes = ["ws:", "wss:"] ∧ ensurePortPrefix = ["["] := ⟨rfl, rfl, rfl⟩
end XmppVerif.Tie.C20
#print axioms XmppVerif.Tie.C20.tie_default_port
#print axioms XmppVerif.Tie.C20.tie_ws_prefixes
