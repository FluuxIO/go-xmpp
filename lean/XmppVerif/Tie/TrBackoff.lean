import XmppVerif.GoRT
import XmppVerif.Gen.TrRoot
import XmppVerif.Model.C19
import XmppVerif.Props.C19
/-
Tie by TRANSLATION for C19: the bodies of `backoff.setDefault`, `durationForAttempt`, `duration` and `reset`
(backoff.go), translated to Lean by go/extract/tr.go on every run (`Gen/TrRoot.lean`), are proved equal to the
specification `Spec.C19.specMs` = min(cap, base * factor^n) after defaults, for ALL configurations with natural
number fields, all attempt numbers and every random source `rnd` (the parameter that stands for `rand.Intn`).
Floats are the ideal floats of GoRT (exact below 2^53); the product with time.Millisecond is in `Int` (the int64
wrap-around above 292 years is the recorded finding F-19b and stays with Model.C19.toInt64).
-/
namespace XmppVerif.Tie.TrBackoff
open XmppVerif XmppVerif.Model.C19 XmppVerif.Spec.C19 XmppVerif.Gen.TrRoot

def concB (c : Cfg) (attempt : Nat) (last : Int := 0) : backoff :=
  { isNil := false, NoJitter := c.noJitter, Base := c.base, Factor := c.factor, Cap := c.cap, lastDuration := last, attempt := attempt }

theorem tr_setDefault (c : Cfg) (a : Nat) (l : Int) : backoff_setDefault (concB c a l) = concB (setDefault c) a l := by
  unfold backoff_setDefault setDefault concB defaultBase defaultCap defaultFactor
  -- the translated body is the full tree of the three tests: one leaf for each combination
  by_cases hb : c.base = 0 <;>
    by_cases hc : c.cap = 0 <;>
    by_cases hf : c.factor = 0 <;>
    simp [hb, hc, hf, Int.natCast_eq_zero]

theorem min_cast (a b : Nat) : GoRT.math_Min (a : Int) (b : Int) = ((min a b : Nat) : Int) := by
  simp only [GoRT.math_Min, Nat.min_def, Int.ofNat_le]
  split <;> rfl

theorem pow_cast (f n : Nat) : GoRT.math_Pow (GoRT.F64.ofInt (f : Int)) (GoRT.F64.ofInt (n : Int)) = ((f ^ n : Nat) : Int) := by
  have h : ¬ ((n : Int) < 0) := by omega
  simp [GoRT.math_Pow, GoRT.F64.ofInt, h, Int.natCast_pow]

/-- milliseconds the translated code computes before jitter and unit conversion -/
theorem tr_ms (c : Cfg) (n : Nat) :
    GoRT.F64.toInt (GoRT.math_Trunc (GoRT.math_Min (GoRT.F64.ofInt ((setDefault c).cap : Int))
      ((GoRT.F64.ofInt ((setDefault c).base : Int)) * (GoRT.math_Pow (GoRT.F64.ofInt ((setDefault c).factor : Int)) (GoRT.F64.ofInt (n : Int))))))
      = (specMs c n : Int) := by
  rw [pow_cast]
  simp only [GoRT.F64.toInt, GoRT.math_Trunc, GoRT.F64.ofInt]
  rw [← Int.natCast_mul, min_cast]
  rfl

theorem tr_durationForAttempt (rnd : Int → Int) (c : Cfg) (a n : Nat) (l : Int) :
    backoff_durationForAttempt rnd (concB c a l) (n : Int) =
      ((if c.noJitter then (specMs c n : Int) else rnd (specMs c n)) * 1000000, concB (setDefault c) a l) := by
  unfold backoff_durationForAttempt
  rw [tr_setDefault]
  have h := tr_ms c n
  have hj : (setDefault c).noJitter = c.noJitter := by simp [setDefault]
  simp only [concB] at h ⊢
  simp only [h, hj]
  cases c.noJitter <;> simp

theorem sd_idem (c : Cfg) : setDefault (setDefault c) = setDefault c := by
  unfold setDefault defaultBase defaultCap defaultFactor
  by_cases hb : c.base = 0 <;>
    by_cases hc : c.cap = 0 <;>
    by_cases hf : c.factor = 0 <;>
    simp [hb, hc, hf]

/-- `duration()`: the delay of the current attempt, then the attempt counter moves on -/
theorem tr_duration (rnd : Int → Int) (c : Cfg) (a : Nat) (l : Int) :
    backoff_duration rnd (concB c a l) =
      ((if c.noJitter then (specMs c a : Int) else rnd (specMs c a)) * 1000000, concB (setDefault c) (a + 1) l) := by
  unfold backoff_duration
  have := tr_durationForAttempt rnd c a a l
  simp only [concB] at this ⊢
  rw [this]
  simp

theorem tr_reset (c : Cfg) (a : Nat) (l : Int) : backoff_reset (concB c a l) = concB c 0 l := by
  simp [backoff_reset, concB]

/-- **C19 about the translated code**: for every random source that honours the contract of `rand.Intn`
(0 ≤ rnd d < d for d > 0), every configuration and attempt number, the delay the translated `durationForAttempt`
returns is at least 0 and at most cap milliseconds; without jitter it is exactly min(cap, base * factor^n) ms,
which is monotone in n (`Props.C19.C19_mono`). -/
theorem C19_translated_bounds (rnd : Int → Int) (hr : ∀ d : Int, 0 < d → 0 ≤ rnd d ∧ rnd d < d)
    (c : Cfg) (a n : Nat) (l : Int) :
    0 ≤ (backoff_durationForAttempt rnd (concB c a l) (n : Int)).1 ∧
    (backoff_durationForAttempt rnd (concB c a l) (n : Int)).1 ≤ ((setDefault c).cap : Int) * 1000000 ∧
    (c.noJitter = true → (backoff_durationForAttempt rnd (concB c a l) (n : Int)).1 = (specMs c n : Int) * 1000000) := by
  rw [tr_durationForAttempt]
  have hcap := Props.C19.C19_le_cap c n
  have hb : 0 < (setDefault c).base := by simp only [setDefault, defaultBase]; split <;> omega
  have hf : 0 < (setDefault c).factor := by simp only [setDefault, defaultFactor]; split <;> omega
  have hc : 0 < (setDefault c).cap := by simp only [setDefault, defaultCap]; split <;> omega
  have hpos : 0 < specMs c n := by
    unfold specMs
    exact Nat.lt_min.mpr ⟨hc, Nat.mul_pos hb (Nat.pow_pos hf)⟩
  cases hj : c.noJitter
  · have := hr (specMs c n) (by omega)
    simp only [Bool.false_eq_true, ↓reduceIte]
    refine ⟨by omega, by omega, by intro h; cases h⟩
  · simp only [↓reduceIte]
    refine ⟨by omega, by omega, by simp⟩

end XmppVerif.Tie.TrBackoff
#print axioms XmppVerif.Tie.TrBackoff.tr_setDefault
#print axioms XmppVerif.Tie.TrBackoff.tr_durationForAttempt
#print axioms XmppVerif.Tie.TrBackoff.tr_duration
#print axioms XmppVerif.Tie.TrBackoff.tr_reset
#print axioms XmppVerif.Tie.TrBackoff.C19_translated_bounds
