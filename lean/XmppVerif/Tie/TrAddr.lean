import XmppVerif.GoRT
import XmppVerif.Gen.TrRoot
import XmppVerif.Model.C20
import XmppVerif.Props.C20
/-
Tie by TRANSLATION for C20: the body of `ensurePort` (network.go), translated to Lean by go/extract/tr.go on every
run (`Gen/TrRoot.lean`), equals the hand-written model `Model.C20.ensurePort` for ALL addresses and ports ≥ 0.
-/
namespace XmppVerif.Tie.TrAddr
open XmppVerif XmppVerif.Model.C20

theorem lastIndex_eq (c : Char) : ∀ s : List Char, GoRT.strings_LastIndex s [c] = lastIndex c s
  | [] => by simp [GoRT.strings_LastIndex, lastIndex]
  | x :: xs => by
    simp only [GoRT.strings_LastIndex, lastIndex, lastIndex_eq c xs, GoRT.isPrefix_single, beq_iff_eq]

theorem countGo_eq (c : Char) : ∀ s : List Char, GoRT.countGo [c] s 0 = (s.count c : Int)
  | [] => by simp [GoRT.countGo]
  | x :: xs => by
    simp only [GoRT.countGo, GoRT.isPrefix_single, List.length_singleton, Nat.sub_self, countGo_eq c xs, List.count_cons,
      beq_iff_eq]
    split <;> omega

theorem count_eq (c : Char) (s : List Char) : GoRT.strings_Count s [c] = (s.count c : Int) := by
  simp [GoRT.strings_Count, countGo_eq]

theorem hasPrefix_single (c : Char) (s : List Char) : GoRT.strings_HasPrefix s [c] = decide (s.head? = some c) := by
  cases s with
  | nil => simp [GoRT.strings_HasPrefix, List.isPrefixOf]
  | cons x xs =>
    simp only [GoRT.strings_HasPrefix, GoRT.isPrefix_single, List.head?_cons, Option.some.injEq]
    rfl

theorem itoa_eq (p : Nat) : GoRT.strconv_Itoa (p : Int) = itoa p := rfl

theorem tr_ensurePort (addr : List Char) (p : Nat) :
    Gen.TrRoot.ensurePort addr (p : Int) = Model.C20.ensurePort addr p := by
  unfold Gen.TrRoot.ensurePort Model.C20.ensurePort
  simp only [hasPrefix_single, lastIndex_eq, count_eq, itoa_eq, decide_eq_true_eq]
  by_cases hb : addr.head? = some '['
  · simp only [hb, ↓reduceIte]
    by_cases hl : lastIndex ':' addr ≤ lastIndex ']' addr <;> simp [hl]
  · simp only [hb, ↓reduceIte]
    match hc : addr.count ':' with
    | 0 => simp
    | 1 => simp
    | k + 2 =>
      have h0 : ¬ ((k : Int) + 2 = 0) := by omega
      have h1 : ¬ ((k : Int) + 2 = 1) := by omega
      simp [h0, h1]

/-- **C20 about the translated code**: for every well-formed address form the translated `ensurePort` returns
exactly `JoinHostPort(host, port)`, with 5222 only when no port was written. -/
theorem C20_translated_dial (f : Spec.C20.Form) (h : f.wf = true) :
    Gen.TrRoot.ensurePort f.render (5222 : Int) = f.expected :=
  (tr_ensurePort f.render 5222).trans (Props.C20.C20_dial f h)

theorem hasPrefix_isWs (addr : List Char) :
    (GoRT.strings_HasPrefix addr ['w', 's', ':'] || GoRT.strings_HasPrefix addr ['w', 's', 's', ':']) = isWs addr := rfl

open Gen.TrRoot in
/-- `NewClientTransport`, translated: a WebSocket transport with the configuration untouched exactly when the model
chooses `ws`; otherwise the XMPP transport, the client stream opening, and the address normalised by `ensurePort`
with 5222 - every other configuration field unchanged. (`clientTransport` never refuses: the last arm only completes the
match.) -/
theorem tr_NewClientTransport (cfg : TransportConfiguration) :
    NewClientTransport cfg =
      match clientTransport cfg.Address with
      | .ws => Transport.WebsocketTransport { Config := cfg }
      | .xmpp dial => Transport.XMPPTransport { Config := { cfg with Address := dial }, openStatement := clientStreamOpen }
      | .refused => Transport.nil := by
  unfold NewClientTransport clientTransport
  rw [hasPrefix_isWs]
  by_cases h : isWs cfg.Address = true
  · simp [h]
  · -- stated with the `(5222 : Int)` of the goal; `tr_ensurePort` has the cast of `(5222 : Nat)`, the same by unfolding
    have : Gen.TrRoot.ensurePort cfg.Address 5222 = _ := tr_ensurePort cfg.Address 5222
    simp [h, this, defaultPort]

open Gen.TrRoot in
/-- `NewComponentTransport`, translated: refused with an error (and no transport) exactly when the model refuses.
(`componentTransport` never answers `ws`: the last arm only completes the match.) -/
theorem tr_NewComponentTransport (cfg : TransportConfiguration) :
    NewComponentTransport cfg =
      match componentTransport cfg.Address with
      | .refused => (Transport.nil, GoRT.Err.plain)
      | .xmpp dial => (Transport.XMPPTransport { Config := { cfg with Address := dial }, openStatement := componentStreamOpen }, GoRT.Err.none)
      | .ws => (Transport.nil, GoRT.Err.none) := by
  unfold NewComponentTransport componentTransport
  rw [hasPrefix_isWs]
  by_cases h : isWs cfg.Address = true
  · simp [h]
  · have : Gen.TrRoot.ensurePort cfg.Address 5222 = _ := tr_ensurePort cfg.Address 5222
    simp [h, this, defaultPort]

end XmppVerif.Tie.TrAddr
#print axioms XmppVerif.Tie.TrAddr.tr_ensurePort
#print axioms XmppVerif.Tie.TrAddr.C20_translated_dial
#print axioms XmppVerif.Tie.TrAddr.tr_NewClientTransport
#print axioms XmppVerif.Tie.TrAddr.tr_NewComponentTransport
