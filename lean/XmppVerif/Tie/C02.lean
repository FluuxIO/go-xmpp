import XmppVerif.Gen.Dispatch
import XmppVerif.Model.C02
/-
Tie (regenerated facts) for C02: the dispatch of NextPacket, the list of hand-written UnmarshalXML loops, what each
loop does with a child start element (the fact the F-02 fix establishes: it is consumed on every path), the case
labels of the loops, and the extension registry, read off /repo's AST, equal what `Model/C02.lean` transcribes.
Removing a `d.Skip()` from a loop, adding a loop, a case label or a dispatch entry breaks one of these.
-/
namespace XmppVerif.Tie.C02
open XmppVerif.Gen.Dispatch XmppVerif.Model.C02

/-- the decode call NextPacket hands an element of this kind to -/
def decodeCall : Kind → String
  | .message => "message.decode" | .presence => "presence.decode" | .iq => "iq.decode"
  | .streamFeatures => "streamFeatures.decode" | .streamError => "streamError.decode"
  | .saslSuccess => "saslSuccess.decode" | .saslFailure => "saslFailure.decode"
  | .smEnabled => "s.decodeEnabled" | .smResumed => "s.decodeResumed" | .smResume => "s.decodeResume"
  | .smRequest => "s.decodeRequest" | .smAnswer => "s.decodeAnswer" | .smFailed => "s.decodeFailed"
  | .handshake => "handshake.decode" | .streamClose => "streamClose.decode"

theorem tie_ns_switch : nsSwitch =
    [(nsStream, "decodeStream"), (nsSASL, "decodeSASL"), (nsClient, "decodeClient"), (nsComponent, "decodeComponent"),
     (nsSM, "sm.decode"), ("default", "error")] := rfl

theorem tie_dispatch_table : table = dispatchTable.map (fun e => (e.1, decodeCall e.2)) := rfl

theorem tie_defaults_error : defaultsReturnError = true := rfl

theorem tie_end_element :
    endElementReturned = "((t.Name.Space==NSStream)&&(t.Name.Local==\"stream\"))" ∧
    nsStreamValue = streamEnd.space ∧ streamEnd.loc = "stream" := ⟨rfl, rfl, rfl⟩

/-- the Go type each decode function unmarshals into. `kindDec` is transcribed from this list by hand, not derived
from it: hand-written loops for Message / Presence / IQ / SMFailed, reflection (with a StartTLS field that has a
loop) for StreamFeatures, plain reflection (`skip`) for the others -/
theorem tie_decode_types : decodeTypes =
    [("handshakeDecoder.decode", "Handshake"), ("iqDecoder.decode", "IQ"), ("messageDecoder.decode", "Message"),
     ("presenceDecoder.decode", "Presence"), ("saslFailureDecoder.decode", "SASLFailure"),
     ("saslSuccessDecoder.decode", "SASLSuccess"), ("smDecoder.decodeAnswer", "SMAnswer"),
     ("smDecoder.decodeEnabled", "SMEnabled"), ("smDecoder.decodeFailed", "SMFailed"),
     ("smDecoder.decodeRequest", "SMRequest"), ("smDecoder.decodeResume", "SMResume"),
     ("smDecoder.decodeResumed", "SMResumed"), ("streamErrorDecoder.decode", "StreamError"),
     ("streamFeatureDecoder.decode", "StreamFeatures")] := rfl

/-- every hand-written UnmarshalXML of the package; the constructors of `Dec` are transcribed from this list by hand
(Node = `skip`), so a new loop in /repo changes the list and breaks this theorem -/
theorem tie_unmarshalers : unmarshalers =
    ["Command", "Err", "Forwarded", "History", "IQ", "Message", "Node", "Presence", "PubSubEvent", "PubSubOwner",
     "SMFailed", "TlsStartTLS"] := rfl

/-- the reflection walks that reach a hand-written loop: `Dec.delegation`, `Dec.mucx`, `Dec.features` -/
theorem tie_containers : containers =
    [("Delegation", "Forwarded"), ("MucPresence", "History"), ("StreamFeatures", "TlsStartTLS")] := rfl

/-- F-02: in every loop the child start element is consumed on every path (`armFix` has no `descend`) -/
theorem tie_loops_consume_child : loopConsumesChild =
    [("Command", true), ("Err", true), ("Forwarded", true), ("History", true), ("IQ", true), ("Message", true),
     ("Presence", true), ("PubSubEvent", true), ("PubSubOwner", true), ("SMFailed", true), ("TlsStartTLS", true)] := rfl

theorem tie_loop_exit : loopExit.map Prod.snd = List.replicate 11 "(tt==start.End())" := rfl

theorem tie_loop_local_cases : loopLocalCases =
    [("Command", ["actions", "note", "x"], true),
     ("Forwarded", ["message", "presence", "iq"], true),
     ("Message", ["body", "thread", "subject", "error"], true),
     ("Presence", ["show", "status", "priority", "error"], true),
     ("PubSubEvent", ["collection", "configuration", "delete", "items", "purge", "subscription"], true),
     ("PubSubOwner", ["affiliations", "configure", "default", "delete", "purge", "subscriptions"], true),
     ("SMFailed", smFailedConds, true)] := rfl

theorem tie_iq_error_test : iqErrorTest = "(tt.Name.Local==\"error\")" := rfl

def regNames (pkt : String) : List (String × String) :=
  ((registry.filter fun r => r.1 == pkt).map fun r => (r.2.1, r.2.2.1)).eraseDups

theorem tie_registry_message : regNames "PKTMessage" = msgExt := by decide +kernel
theorem tie_registry_presence : regNames "PKTPresence" = presExt := by decide +kernel
theorem tie_registry_iq : regNames "PKTIQ" = iqExt := by decide +kernel

/-- the registered extension types that have (or contain) a hand-written loop: `extDec` -/
theorem tie_registry_loops :
    (registry.filter fun r => ["Command", "PubSubEvent", "PubSubOwner", "Delegation", "MucPresence"].contains r.2.2.2) =
    [("PKTIQ", nsCommands, "command", "Command"), ("PKTIQ", nsPSOwner, "pubsub", "PubSubOwner"),
     ("PKTIQ", nsDelegation, "delegation", "Delegation"), ("PKTMessage", nsPSEvent, "event", "PubSubEvent"),
     ("PKTMessage", nsDelegation, "delegation", "Delegation"), ("PKTPresence", nsMuc, "x", "MucPresence")] := by
  decide +kernel

end XmppVerif.Tie.C02
#print axioms XmppVerif.Tie.C02.tie_ns_switch
#print axioms XmppVerif.Tie.C02.tie_dispatch_table
#print axioms XmppVerif.Tie.C02.tie_defaults_error
#print axioms XmppVerif.Tie.C02.tie_end_element
#print axioms XmppVerif.Tie.C02.tie_decode_types
#print axioms XmppVerif.Tie.C02.tie_unmarshalers
#print axioms XmppVerif.Tie.C02.tie_containers
#print axioms XmppVerif.Tie.C02.tie_loops_consume_child
#print axioms XmppVerif.Tie.C02.tie_loop_exit
#print axioms XmppVerif.Tie.C02.tie_loop_local_cases
#print axioms XmppVerif.Tie.C02.tie_iq_error_test
#print axioms XmppVerif.Tie.C02.tie_registry_message
#print axioms XmppVerif.Tie.C02.tie_registry_presence
#print axioms XmppVerif.Tie.C02.tie_registry_iq
#print axioms XmppVerif.Tie.C02.tie_registry_loops
