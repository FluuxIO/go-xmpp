import XmppVerif.Gen.Queue
/-
Tie (regenerated facts) for C17: the guards of the UnAckQueue methods (nil receiver, n ≤ 0, clamp to the length,
empty queue) and that Pop/PopN are built on Peek/PeekN.
(How to read an action or condition list: head of Tie/Recv.lean.)
-/
namespace XmppVerif.Tie.C17
open XmppVerif.Gen.Queue

theorem tie_guards :
    condsPeekN = ["(uaq==nil)", "(n<=0)", "(len(uaq.Uslice)<n)", "(len(uaq.Uslice)==0)"] ∧
    condsPeek = ["(uaq==nil)", "(len(uaq.Uslice)==0)"] ∧ condsPush = ["(uaq==nil)", "(len(uaq.Uslice)!=0)", "!ok"] ∧
    condsPop = ["(uaq==nil)", "(r!=nil)"] ∧ condsPopN = ["(uaq==nil)"] ∧ condsEmpty = ["(uaq==nil)"] := ⟨rfl, rfl, rfl, rfl, rfl, rfl⟩

theorem tie_pop_uses_peek : actsPop = ["if:return", "uaq.Peek", "return"] ∧ actsPopN = ["if:return", "uaq.PeekN", "return"] := ⟨rfl, rfl⟩

end XmppVerif.Tie.C17
#print axioms XmppVerif.Tie.C17.tie_guards
#print axioms XmppVerif.Tie.C17.tie_pop_uses_peek
