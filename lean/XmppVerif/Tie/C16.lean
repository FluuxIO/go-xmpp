import XmppVerif.Gen.Component
import XmppVerif.Model.C16
/-
Tie (regenerated facts) for C16: the shape of `Component.handshake`, `Component.Resume`, `Component.Connect` and of
the attribute loop of `stanza.InitStream` that `Model/C16.lean` transcribes: the format string, the concatenation
order (stream id first), SHA-1 then lower-case hex, which switch arm announces which state, which arm starts the
receive loop, that every failing arm returns a permanent ConnError, and that only the unqualified `id` attribute is
taken as the stream id.
(How to read an action or condition list: head of Tie/Recv.lean.)
-/
namespace XmppVerif.Tie.C16
open XmppVerif.Gen.Component XmppVerif.Model.C16

/-- `<handshake>%s</handshake>` filled with `c.handshake(streamId)` -/
theorem tie_format :
    handshakeSprintf = ["fmt.Sprintf(\"<handshake>%s</handshake>\",c.handshake(streamId))"] ∧
    handshakeElement ['x'] = "<handshake>x</handshake>".toList := by
  refine ⟨rfl, ?_⟩
  -- the kernel decodes a string literal through its UTF-8 bytes, quadratically; this hands it the character lists
  unfold handshakeElement
  rw [String.toList_ofList, String.toList_ofList, String.toList_ofList]
  rfl

/-- `concatStr := streamId + c.Secret`; sha1, then hex.EncodeToString (lower case), returned unchanged -/
theorem tie_digest :
    handshakeConcat = ["streamId", "c.Secret"] ∧
    handshakeActions = ["sha1.New", "h.Write", "[]byte", "h.Sum", "hex.EncodeToString", "return"] ∧
    handshakeReturns = ["encodedStr"] := ⟨rfl, rfl, rfl⟩

/-- the reply switch: arms, the state each announces, and the arm that starts the receive loop -/
theorem tie_resume_switch : resumeSwitch =
    [(["stanza.StreamError"],
      ["c.streamError(\"conflict\",\"no auth loop\")",
       "return NewConnError(errors.New((\"handshake failed \"+v.Error.Local)),true)"]),
     (["stanza.Handshake"], ["c.updateState(StateSessionEstablished)", "go c.recv()", "return err"]),
     (["default"],
      ["c.updateState(StatePermanentError)",
       "return NewConnError(errors.New((\"expecting handshake result, got \"+v.Name())),true)"])] := rfl

/-- the whole flow of Resume: transport, connect, write, read, switch; `go c.recv` occurs once, in the handshake arm -/
theorem tie_resume_actions : resumeActions =
    ["NewComponentTransport", "if:c.updateState", "if:NewConnError", "if:return",
     "c.transport.Connect", "if:c.updateState", "if:NewConnError", "if:return",
     "c.sendWithWriter", "[]byte", "fmt.Sprintf", "c.handshake", "if:c.updateState", "if:NewConnError", "if:err.Error",
     "if:return",
     "stanza.NextPacket", "c.transport.GetDecoder", "if:c.updateState", "if:NewConnError", "if:return",
     "case(stanza.StreamError):c.streamError", "case(stanza.StreamError):NewConnError", "case(stanza.StreamError):return",
     "case(stanza.Handshake):c.updateState", "case(stanza.Handshake):go c.recv", "case(stanza.Handshake):return",
     "case():c.updateState", "case():NewConnError", "case():v.Name", "case():return"] := rfl

theorem tie_connect : connectBody = ["return c.Resume()"] := rfl

/-- only an attribute without namespace named `id` sets the stream id (model: `streamIdOf`) -/
theorem tie_init_stream : initStreamAttrLoop =
    ["elem.Attr", "if (attrs.Name.Space!=\"\") {continue}",
     "switch attrs.Name.Local {case \"id\": sessionID=attrs.Value}"] := rfl

/-- the numeric codes of the states are the model's -/
theorem tie_states :
    stateConsts = ["StateDisconnected", "StateResuming", "StateSessionEstablished", "StateStreamError",
                   "StatePermanentError"] ∧
    [ConnState.disconnected, .resuming, .sessionEstablished, .streamError, .permanentError].map ConnState.code =
      [0, 1, 2, 3, 4] := ⟨rfl, rfl⟩

end XmppVerif.Tie.C16
#print axioms XmppVerif.Tie.C16.tie_format
#print axioms XmppVerif.Tie.C16.tie_digest
#print axioms XmppVerif.Tie.C16.tie_resume_switch
#print axioms XmppVerif.Tie.C16.tie_resume_actions
#print axioms XmppVerif.Tie.C16.tie_connect
#print axioms XmppVerif.Tie.C16.tie_init_stream
#print axioms XmppVerif.Tie.C16.tie_states
