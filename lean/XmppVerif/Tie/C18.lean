import XmppVerif.Gen.Keepalive
/-
Tie (regenerated facts) for C18: the two arms of the `select` in `keepalive` (tick: Ping, on error Stop + Close +
return; quit: Stop + return) and that `Client.Connect` starts the keepalive together with the receive loop
(whose deferred `close(keepaliveQuit)` - Tie.Recv - is what ends it).
(How to read an action or condition list: head of Tie/Recv.lean.)
-/
namespace XmppVerif.Tie.C18
open XmppVerif.Gen.Keepalive

theorem tie_keepalive : keepalive =
  ["time.NewTicker", "for:select(<-ticker.C):transport.Ping", "for:select(<-ticker.C):if:ticker.Stop",
   "for:select(<-ticker.C):if:transport.Close", "for:select(<-ticker.C):if:return",
   "for:select(<-quit):ticker.Stop", "for:select(<-quit):return"] := rfl

theorem tie_connect_starts_both : "go keepalive" ∈ clientConnect ∧ "go c.recv" ∈ clientConnect := by decide

end XmppVerif.Tie.C18
#print axioms XmppVerif.Tie.C18.tie_keepalive
#print axioms XmppVerif.Tie.C18.tie_connect_starts_both
