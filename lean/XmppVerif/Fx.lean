/-
Fx: the control-flow / effect skeleton of a Go function, REGENERATED from /repo on every run by go/extract/fx.go
(Gen/Fx.lean), and a VERIFIED abstract interpreter over it with two instances: the lock discipline, and (second half of
the file) the complete traces of a body, on which the ties check decidable predicates.

A skeleton keeps, of a function body, exactly: its branching structure (`if`, `switch`, `select`, type switches: all
as a nondeterministic `branch` - conditions are labels, not evaluated), its loops, its `return`s, and the calls it
makes, in order (`act`): lock operations on a lock CLASS (the type or field that owns the mutex), `defer`red unlocks,
goroutine starts, writes to the transport, stores into the un-acknowledged queue, channel operations, other calls.

Semantics: a big-step relation `Runs pol p s o` (`pol : Sem σ`, an interpretation of the acts) over ALL resolutions of the branches and ALL iteration counts of the
loops (conditions are not interpreted: every path of the control-flow graph is a run - an over-approximation of the
real executions of that function body). The checker `ends` is an abstract interpreter over the states of `Sem σ`;
`ends_sound` proves once and for all that its answer covers EVERY run. The obligation of Tie/Fx.lean is then
`Gen.Fx.all.all (fun f => balanced pol f.2) = true`, evaluated by the kernel on the regenerated skeletons: a theorem
about every path and every loop count of every function in the list - not a sample of paths.
-/
namespace XmppVerif.Fx

/-- effects the analysis interprets; everything else is a `call` -/
inductive Act where
  | lock (cls : String)
  | unlock (cls : String)
  | deferUnlock (cls : String)
  | write                      -- a write to the transport
  | store                      -- UnAckQueue.Push
  | spawn (what : String)      -- `go f(...)`
  | chsend (what : String)     -- `ch <- v`
  | chclose (what : String)    -- `close(ch)`
  | call (what : String)       -- any other call, rendered `recv.Method` / `pkg.Func` / `Func`
  deriving DecidableEq, Repr

inductive Fx where
  | ret (label : String)
  | act (a : Act) (k : Fx)
  | branch (cond : String) (t e : Fx)
  | loop (body : Fx) (k : Fx)    -- in a generated `body` every path ends in `ret`, `brk` or `cont`; its end is `cont`
  | brk
  | cont
  deriving DecidableEq, Repr

/-- lock state: classes held, deferred unlocks (LIFO), whether discipline was broken, and whether a stanza stored in the
un-acknowledged queue by this call has not been written yet -/
structure St where
  held : List String := []
  deferred : List String := []
  bad : Bool := false
  stored : Bool := false
  deriving DecidableEq, Repr

/-- the lock class of the un-acknowledged queue (`stanza.UnAckQueue` embeds its mutex) -/
def queueCls : String := "UnAckQueue"

/-- A policy says which acts are allowed while which classes are held (e.g. no handler call under the router's lock). -/
abbrev Policy := Act → List String → Bool

def St.unlock (s : St) (c : String) : St :=
  if s.held.contains c then
    -- releasing the queue between the store of a stanza and its write breaks "order of the queue = order on the wire"
    { s with held := s.held.erase c, bad := s.bad || (c == queueCls && s.stored) }
  else { s with bad := true }

def upd (pol : Policy) (s : St) (a : Act) : St :=
  let s := if pol a s.held then s else { s with bad := true }
  match a with
  | .lock c => if s.held.contains c then { s with bad := true } else { s with held := c :: s.held }
  | .unlock c => s.unlock c
  | .deferUnlock c => { s with deferred := c :: s.deferred }
  | .store => if s.held.contains queueCls then { s with stored := true } else { s with bad := true }
  | .write => { s with stored := false }
  | _ => s

/-- at `return`: the deferred unlocks run, last registered first -/
def atReturn (s : St) : St :=
  s.deferred.foldl (fun s c => s.unlock c) { s with deferred := [] }

/-- An interpretation of the acts over a state type σ: what an act does, what happens at `return l`. -/
structure Sem (σ : Type) where
  upd : σ → Act → σ
  atRet : String → σ → σ

inductive Out (σ : Type) where
  | ret (label : String) (s : σ)
  | brk (s : σ)
  | cont (s : σ)

inductive Runs {σ : Type} (pol : Sem σ) : Fx → σ → Out σ → Prop where
  | ret (l s) : Runs pol (.ret l) s (.ret l (pol.atRet l s))
  | act (a k s o) : Runs pol k (pol.upd s a) o → Runs pol (.act a k) s o
  | branchT (c t e s o) : Runs pol t s o → Runs pol (.branch c t e) s o
  | branchE (c t e s o) : Runs pol e s o → Runs pol (.branch c t e) s o
  | brk (s) : Runs pol .brk s (.brk s)
  | cont (s) : Runs pol .cont s (.cont s)
  | loopExit (b k s o) : Runs pol k s o → Runs pol (.loop b k) s o
  | loopRet (b k s l s') : Runs pol b s (.ret l s') → Runs pol (.loop b k) s (.ret l s')
  | loopBrk (b k s s' o) : Runs pol b s (.brk s') → Runs pol k s' o → Runs pol (.loop b k) s o
  | loopCont (b k s s' o) : Runs pol b s (.cont s') → Runs pol (.loop b k) s' o → Runs pol (.loop b k) s o

/-- what a run may end in, as the analysis sees it (labels dropped) -/
structure Ends (σ : Type) where
  rets : List σ := []
  brks : List σ := []
  conts : List σ := []

variable {σ : Type}

def Ends.union (a b : Ends σ) : Ends σ := ⟨a.rets ++ b.rets, a.brks ++ b.brks, a.conts ++ b.conts⟩

def Ends.has (e : Ends σ) : Out σ → Prop
  | .ret _ s => s ∈ e.rets
  | .brk s => s ∈ e.brks
  | .cont s => s ∈ e.conts

def Ends.sub (a b : Ends σ) : Prop := ∀ o, a.has o → b.has o

theorem Ends.sub_union_left (a b : Ends σ) : a.sub (a.union b) := by
  intro o h
  cases o <;> exact List.mem_append_left _ h

theorem Ends.sub_union_right (a b : Ends σ) : b.sub (a.union b) := by
  intro o h
  cases o <;> exact List.mem_append_right _ h

/-- both parts accepted: what `ends` asks of a branch, and `collect` of a list -/
theorem union_some {a b : Option (Ends σ)} {r : Ends σ}
    (h : (match a, b with | some x, some y => some (x.union y) | _, _ => none) = some r) :
    ∃ x y, a = some x ∧ b = some y ∧ r = x.union y := by
  cases a <;> cases b <;> simp only [reduceCtorEq, Option.some.injEq] at h
  exact ⟨_, _, rfl, rfl, h.symm⟩

def collect (f : σ → Option (Ends σ)) : List σ → Option (Ends σ)
  | [] => some {}
  | s :: r =>
    match f s, collect f r with
    | some a, some b => some (a.union b)
    | _, _ => none

theorem collect_mem (f : σ → Option (Ends σ)) : ∀ (l : List σ) (e : Ends σ), collect f l = some e →
    ∀ s ∈ l, ∃ e', f s = some e' ∧ e'.sub e := by
  intro l
  induction l with
  | nil => intro e _ s hs; cases hs
  | cons x r ih =>
    intro e h s hs
    obtain ⟨a, b, hx, hr, rfl⟩ := union_some h
    rcases List.mem_cons.mp hs with rfl | hs'
    · exact ⟨a, hx, Ends.sub_union_left a b⟩
    · obtain ⟨e', h1, h2⟩ := ih b hr s hs'
      exact ⟨e', h1, fun o ho => Ends.sub_union_right a b o (h2 o ho)⟩

/-- The abstract interpreter. A loop is accepted only when every `continue` (and the end of the body) comes back to the
state the loop was entered with - the loop-head state is then an invariant and the number of iterations is irrelevant. -/
def ends [DecidableEq σ] (pol : Sem σ) : Fx → σ → Option (Ends σ)
  | .ret l, s => some { rets := [pol.atRet l s] }
  | .act a k, s => ends pol k (pol.upd s a)
  | .branch _ t e, s =>
    match ends pol t s, ends pol e s with
    | some a, some b => some (a.union b)
    | _, _ => none
  | .brk, s => some { brks := [s] }
  | .cont, s => some { conts := [s] }
  | .loop b k, s =>
    match ends pol b s with
    | none => none
    | some eb =>
      if eb.conts.all (· == s) then
        -- after the loop: from the head state (the condition was false) and from every break state
        match collect (ends pol k) (s :: eb.brks) with
        | some ek => some (({ rets := eb.rets } : Ends σ).union ek)
        | none => none
      else none

theorem ends_loop [DecidableEq σ] {pol : Sem σ} {b k : Fx} {s : σ} {r : Ends σ} (h : ends pol (.loop b k) s = some r) :
    ∃ eb ek, ends pol b s = some eb ∧ (∀ s' ∈ eb.conts, s' = s) ∧ collect (ends pol k) (s :: eb.brks) = some ek ∧
      r = ({ rets := eb.rets } : Ends σ).union ek := by
  rw [ends] at h
  split at h
  · cases h
  · rename_i eb hb
    split at h
    · rename_i hall
      split at h
      · rename_i ek hk
        exact ⟨eb, ek, hb, fun s' hs' => by simpa using List.all_eq_true.mp hall s' hs', hk, (Option.some.inj h).symm⟩
      · cases h
    · cases h

/-- **Soundness of the analysis**: whatever `ends` answers covers every run - every resolution of every branch, every
number of iterations of every loop. -/
theorem ends_sound [DecidableEq σ] (pol : Sem σ) : ∀ p s o, Runs pol p s o → ∀ e, ends pol p s = some e → e.has o := by
  intro p s o h
  induction h with
  | ret l s => intro e he; cases he; exact List.mem_singleton_self _
  | act a k s o _ ih => intro e he; exact ih e he
  | branchT c t e' s o _ ih =>
    intro e he
    obtain ⟨a, b, ha, _, rfl⟩ := union_some he
    exact Ends.sub_union_left a b o (ih a ha)
  | branchE c t e' s o _ ih =>
    intro e he
    obtain ⟨a, b, _, hb, rfl⟩ := union_some he
    exact Ends.sub_union_right a b o (ih b hb)
  | brk s => intro e he; cases he; exact List.mem_singleton_self _
  | cont s => intro e he; cases he; exact List.mem_singleton_self _
  | loopExit b k s o _ ih =>
    intro e he
    obtain ⟨eb, ek, _, _, hk, rfl⟩ := ends_loop he
    obtain ⟨e1, h1, h2⟩ := collect_mem _ _ _ hk s List.mem_cons_self
    exact Ends.sub_union_right _ ek o (h2 o (ih e1 h1))
  | loopRet b k s l s' _ ih =>
    intro e he
    obtain ⟨eb, ek, hb, _, _, rfl⟩ := ends_loop he
    exact Ends.sub_union_left _ ek (.ret l s') (ih eb hb)
  | loopBrk b k s s' o _ _ ihb ihk =>
    intro e he
    obtain ⟨eb, ek, hb, _, hk, rfl⟩ := ends_loop he
    obtain ⟨e1, h1, h2⟩ := collect_mem _ _ _ hk s' (List.mem_cons_of_mem _ (ihb eb hb))
    exact Ends.sub_union_right _ ek o (h2 o (ihk e1 h1))
  | loopCont b k s s' o _ _ ihb ihl =>
    intro e he
    obtain ⟨eb, _, hb, hc, _, _⟩ := ends_loop he
    cases hc s' (ihb eb hb)
    exact ihl e he

def lockSem (pol : Policy) : Sem St := ⟨upd pol, fun _ s => atReturn s⟩

def balanced (pol : Policy) (p : Fx) : Bool :=
  match ends (lockSem pol) p {} with
  | some e => e.rets.all (fun s => s.held.isEmpty && !s.bad) && e.brks.isEmpty && e.conts.isEmpty
  | none => false

/-- **What `balanced` means**: on EVERY run of the body - whatever the conditions evaluate to, however often the loops
iterate - the function returns with every lock released (deferred unlocks included), never acquires a class it
already holds, never releases one it does not hold, never lets go of the queue between storing a stanza and writing
it, and never does under a lock what the policy forbids there. -/
theorem balanced_sound (pol : Policy) (p : Fx) (h : balanced pol p = true) :
    ∀ l s, Runs (lockSem pol) p {} (.ret l s) → s.held = [] ∧ s.bad = false := by
  intro l s hr
  unfold balanced at h
  split at h
  · rename_i e he
    simp only [Bool.and_eq_true, List.all_eq_true, List.isEmpty_iff, Bool.not_eq_true'] at h
    exact h.1.1 s (ends_sound (lockSem pol) p {} _ hr e he)
  · cases h

def Fx.mentions : Fx → Act → Bool
  | .ret _, _ => false
  | .act a k, b => a == b || k.mentions b
  | .branch _ t e, b => t.mentions b || e.mentions b
  | .loop bd k, b => bd.mentions b || k.mentions b
  | .brk, _ => false
  | .cont, _ => false

def polAny : Policy := fun _ _ => true
/-- while `cls` is held only the listed calls may happen (no handler, no channel operation, no write, no spawn) -/
def polQuiet (cls : String) (allowed : List String) : Policy := fun a held =>
  !held.contains cls ||
  match a with
  | .call w => allowed.contains w
  | .lock _ | .unlock _ | .deferUnlock _ => true
  | _ => false

-- non-vacuity: a leaked lock on an error path is refused, the deferred form is accepted, a loop that keeps the lock is refused
example : balanced polAny (.act (.lock "q") (.act .store (.act .write (.branch "err != nil" (.ret "err") (.act (.unlock "q") (.ret "nil")))))) = false := by decide
example : balanced polAny (.act (.lock "UnAckQueue") (.act (.deferUnlock "UnAckQueue") (.act .store (.act .write (.ret "err"))))) = true := by decide
example : balanced polAny (.act (.lock "UnAckQueue") (.act .store (.act (.unlock "UnAckQueue") (.act .write (.ret "err"))))) = false := by decide
example : balanced polAny (.loop (.act (.lock "m") .cont) (.ret "")) = false := by decide
example : balanced polAny (.loop (.act (.lock "m") (.branch "c" (.act (.unlock "m") .brk) (.act (.unlock "m") .cont))) (.ret "")) = true := by decide
example : balanced (polQuiet "L" ["delete"]) (.act (.lock "L") (.act (.call "delete") (.act (.unlock "L") (.act (.chsend "result") (.ret ""))))) = true := by decide
example : balanced (polQuiet "L" ["delete"]) (.act (.lock "L") (.act (.deferUnlock "L") (.act (.chsend "result") (.ret "")))) = false := by decide

-- The trace semantics: the state is the list of acts performed so far, the return label is appended at `return`.
-- For a body without loops (or whose loops perform no act) `ends` then enumerates EVERY complete trace of the body,
-- and `traces_sound` says that each run's trace is in that list: a decidable predicate checked on the list holds for
-- every run.

/-- acts so far, oldest first; the final element of a complete trace is `.call ("return " ++ label)` -/
def traceSem : Sem (List Act) := ⟨fun t a => t ++ [a], fun l t => t ++ [.call ("return " ++ l)]⟩

/-- all complete traces of a body (none when a loop of the body performs acts - the trace semantics has no invariant
for such a loop - or when `break` / `continue` escape) -/
def traces (p : Fx) : Option (List (List Act)) :=
  match ends traceSem p [] with
  | some e => if e.brks.isEmpty && e.conts.isEmpty then some e.rets else none
  | none => none

theorem traces_sound (p : Fx) (ts : List (List Act)) (h : traces p = some ts) :
    ∀ l t, Runs traceSem p [] (.ret l t) → t ∈ ts := by
  intro l t hr
  unfold traces at h
  split at h
  · rename_i e he
    split at h
    · cases h
      exact ends_sound traceSem p [] _ hr e he
    · cases h
  · cases h

def allTraces (p : Fx) (P : List Act → Bool) : Bool :=
  match traces p with
  | some ts => ts.all P
  | none => false

theorem allTraces_sound (p : Fx) (P : List Act → Bool) (h : allTraces p P = true) :
    ∀ l t, Runs traceSem p [] (.ret l t) → P t = true := by
  intro l t hr
  unfold allTraces at h
  split at h
  · rename_i ts ht
    exact List.all_eq_true.mp h t (traces_sound p ts ht l t hr)
  · cases h

/-- the body of the first loop of a skeleton (what one pass of a receive loop or of the keepalive does) -/
def loopBody : Fx → Option Fx
  | .loop b _ => some b
  | .act _ k => loopBody k
  | _ => none

def Out.trace : Out (List Act) → List Act
  | .ret _ t => t
  | .cont t => t ++ [.call "continue"]
  | .brk t => t ++ [.call "break"]

/-- every complete trace of ONE pass through a body (its own loops, if any, must perform no act), with how the pass
ended: `return <label>` (appended by the semantics), `continue` (also: the end of the body), `break` -/
def iterTraces (p : Fx) : Option (List (List Act)) :=
  (ends traceSem p []).map fun e =>
    e.rets ++ e.conts.map (· ++ [.call "continue"]) ++ e.brks.map (· ++ [.call "break"])

theorem iterTraces_sound (p : Fx) (ts : List (List Act)) (h : iterTraces p = some ts) :
    ∀ o, Runs traceSem p [] o → o.trace ∈ ts := by
  intro o hr
  obtain ⟨e, he, rfl⟩ := Option.map_eq_some_iff.mp h
  have hm := ends_sound traceSem p [] o hr e he
  cases o with
  | ret l t => exact List.mem_append_left _ (List.mem_append_left _ hm)
  | cont t => exact List.mem_append_left _ (List.mem_append_right _ (List.mem_map_of_mem hm))
  | brk t => exact List.mem_append_right _ (List.mem_map_of_mem hm)

def allIter (p : Fx) (P : List Act → Bool) : Bool :=
  match iterTraces p with
  | some ts => ts.all P
  | none => false

theorem allIter_sound (p : Fx) (P : List Act → Bool) (h : allIter p P = true) :
    ∀ o, Runs traceSem p [] o → P o.trace = true := by
  intro o hr
  unfold allIter at h
  split at h
  · rename_i ts ht
    exact List.all_eq_true.mp h _ (iterTraces_sound p ts ht o hr)
  · cases h

def isSpawn : Act → Bool | .spawn _ => true | _ => false
def isCall (names : List String) : Act → Bool | .call w => names.contains w | _ => false
/-- the label the trace returned with (7 = the length of `"return "`) -/
def retLabel (t : List Act) : String :=
  match t.getLast? with
  | some (.call w) => (w.drop 7).toString
  | _ => ""
def noneAfter (p q : Act → Bool) (t : List Act) : Bool := !((t.dropWhile (fun a => !p a)).drop 1).any q

end XmppVerif.Fx
